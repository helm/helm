import Helm.Props.C08
#print axioms Helm.Props.C08.sort_perm
#print axioms Helm.Props.C08.sort_sorted
#print axioms Helm.Props.C08.sort_stable
#print axioms Helm.Props.C08.same_kind_keeps_order
#print axioms Helm.Props.C08.known_before_unknown
#print axioms Helm.Props.C08.known_follow_table
#print axioms Helm.Props.C08.unknown_alphabetical
#print axioms Helm.Props.C08.no_ties
#print axioms Helm.Props.C08.installOrder_is_spec
#print axioms Helm.Props.C08.uninstallOrder_is_spec
#print axioms Helm.Props.C08.hookEvents_is_spec
#print axioms Helm.Props.C08.hookAnnotations_are_spec
#print axioms Helm.Props.C08.installOrder_nodup
#print axioms Helm.Props.C08.uninstallOrder_perm_installOrder
#print axioms Helm.Props.C08.uninstallOrder_nodup
#print axioms Helm.Props.C08.orders_same_kinds
#print axioms Helm.Props.C08.namespace_first
#print axioms Helm.Props.C08.partition
#print axioms Helm.Props.C08.hook_iff
#print axioms Helm.Props.C08.dropped_iff
#print axioms Helm.Props.C08.eventsOf_isSome_iff
#print axioms Helm.Props.C08.partial_contributes_nothing
#print axioms Helm.Props.C08.notes_never_applied
#print axioms Helm.Props.C08.notes_keeps_rest
#print axioms Helm.Props.C08.counterexample_notes_suffix
#print axioms Helm.Props.C08.split_docs_trimmed
#print axioms Helm.Props.C08.barrier_inv_init
#print axioms Helm.Props.C08.barrier_inv_step
#print axioms Helm.Props.C08.barrier_inv_run
#print axioms Helm.Props.C08.barrier
#print axioms Helm.Props.C08.batch_loop_facts
