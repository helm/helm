import Helm.Props.C03
#print axioms Helm.Props.C03.install_failure_marks_failed
#print axioms Helm.Props.C03.rollback_hook_failure_marks_failed
#print axioms Helm.Props.C03.rollback_hook_failure_instance
#print axioms Helm.Props.C03.rollback_resource_failure_marks_failed
#print axioms Helm.Props.C03.rollback_update_failure_marks_failed
#print axioms Helm.Props.C03.atomic_install_failure_leaves_nothing
#print axioms Helm.Props.C03.upgrade_failure_contained
#print axioms Helm.Props.C03.atomic_upgrade_failure_restores
#print axioms Helm.Props.C03.upgrade_failure_contained_instance
#print axioms Helm.Props.C03.atomic_upgrade_restores_instance
#print axioms Helm.Props.C03.atomic_install_leaves_nothing_instance
#print axioms Helm.Props.C03.atomic_failure_is_rollback
#print axioms Helm.Props.C03.atomic_restores_previous_manifest
#print axioms Helm.Props.C03.cleanup_removes_created
#print axioms Helm.Props.C03.failure_paths_skeleton
#print axioms Helm.Props.C03.atomic_glue_forwards_flags
#print axioms Helm.Props.C03.failure_flags_bound
