import Helm.Props.C20
#print axioms Helm.Props.C20.strvals_never_panics
#print axioms Helm.Props.C20.strvals_key_recovers
#print axioms Helm.Props.C20.strvals_nesting_limit
#print axioms Helm.Props.C20.storage_list_never_panics
#print axioms Helm.Props.C20.storage_query_never_panics
#print axioms Helm.Props.C20.storage_step_never_panics
#print axioms Helm.Props.C20.get_never_panics
#print axioms Helm.Props.C20.delete_never_panics
#print axioms Helm.Props.C20.index_load_with_nulls_never_panics
#print axioms Helm.Props.C20.index_load_never_panics
#print axioms Helm.Props.C20.index_get_never_panics
#print axioms Helm.Props.C20.import_values_welltyped_ok
#print axioms Helm.Props.C20.import_values_never_panics
#print axioms Helm.Props.C20.import_values_illtyped_is_error
#print axioms Helm.Props.C20.archive_name_total
#print axioms Helm.Props.C20.render_never_exhausts_stack
#print axioms Helm.Props.C20.shallow_render_succeeds
#print axioms Helm.Props.C20.self_include_is_error
#print axioms Helm.Props.C20.unshared_counters_exhaust_every_stack
#print axioms Helm.Props.C20.recursion_guard_facts
