import Helm.Props.C18
#print axioms Helm.Props.C18.precedence_total
#print axioms Helm.Props.C18.precedence_trans
#print axioms Helm.Props.C18.load_with_nulls
#print axioms Helm.Props.C18.kept_iff
#print axioms Helm.Props.C18.load_keeps_exactly_valid
#print axioms Helm.Props.C18.load_sorted
#print axioms Helm.Props.C18.first_match_is_best
#print axioms Helm.Props.C18.get_returns_highest_satisfying
#print axioms Helm.Props.C18.get_exact_match_first
#print axioms Helm.Props.C18.get_none_is_error
#print axioms Helm.Props.C18.get_bad_constraint
#print axioms Helm.Props.C18.resolve_locks_highest
#print axioms Helm.Props.C18.tag_highest_satisfying
