/-
The history at quiescence is well-formed, for any number of concurrent installs/upgrades and
any schedule: an invariant `Q` over the ledger and all processes, kept by every step of every
process (`run_induction`).  As far as the other processes are concerned a step of `p` is of one
of two kinds: it leaves the ledger alone and `p` as much in flight as it was (`Q.internal`), or it
is made while nobody else is in flight (`Q.exclusive`: Create and the two status updates).
-/
import Helm.Lemmas.Conc
import Helm.Lemmas.Ledger

namespace Helm.Conc
open Helm.Ledger

theorem maxRev_nil : maxRev ([] : Ledger) = 0 := rfl

/-! ### the invariant -/

/-- the revision whose record the process has stored and not yet finalised -/
def inflight (p : Proc) : Option Nat := match p.pc with
  | .created r _ => some r
  | .mutated r _ => some r
  | .superseded r => some r
  | _ => none

/-- the highest revision the process read, on which its Create will be based -/
def holds (p : Proc) : Option Nat := match p.pc with
  | .read b => some b
  | .ready b _ => some b
  | _ => none

def stageOk (l : Ledger) (ps : List Proc) (p : Proc) : Prop :=
  match p.pc with
  | .created r (some c) => c < r ∧ ∀ x ∈ l, x.status = .deployed → x.rev = c
  | .mutated r (some c) => c < r ∧ ∀ x ∈ l, x.status = .deployed → x.rev = c
  | .created _ none => ∀ x ∈ l, x.status ≠ .deployed
  | .mutated _ none => ∀ x ∈ l, x.status ≠ .deployed
  | .superseded _ => ∀ x ∈ l, x.status ≠ .deployed
  | .ready b (some c) => b = maxRev l → (∀ q ∈ ps, inflight q = none) →
      c ≤ b ∧ ∀ x ∈ l, x.status = .deployed → x.rev = c
  | .ready b none => b = 0
  | _ => True

structure Q (m0 : Nat) (l : Ledger) (ps : List Proc) : Prop where
  nodup : (Helm.Ledger.revs l).Nodup
  pos : ∀ x ∈ l, 1 ≤ x.rev
  m0le : m0 ≤ maxRev l
  contig : ∀ r, m0 < r → r ≤ maxRev l → r ∈ Helm.Ledger.revs l
  holdsB : ∀ p ∈ ps, ∀ b, holds p = some b → m0 ≤ b ∧ b ≤ maxRev l
  excl : ps.Pairwise (fun p q => inflight p = none ∨ inflight q = none)
  infl : ∀ p ∈ ps, ∀ r, inflight p = some r →
    r = maxRev l ∧ (∃ rec ∈ l, rec.rev = r ∧ rec.status.isPending = true) ∧
    ∀ q ∈ ps, ∀ b, holds q = some b → b < r
  pend : ∀ rec ∈ l, rec.status.isPending = true → ∃ p ∈ ps, inflight p = some rec.rev
  quiet : (∀ p ∈ ps, inflight p = none) → countDeployed l ≤ 1
  stage : ∀ p ∈ ps, stageOk l ps p

/-- what the property asks of the history once everybody has returned -/
theorem Q.quiescent {m0 : Nat} {l : Ledger} {ps : List Proc} (q : Q m0 l ps)
    (hdone : ∀ p ∈ ps, p.isDone = true) :
    (Helm.Ledger.revs l).Nodup ∧ countDeployed l ≤ 1 ∧ ∀ rec ∈ l, rec.status.isPending = false := by
  have hnone : ∀ p ∈ ps, inflight p = none := by
    intro p hp
    have := hdone p hp
    unfold Proc.isDone at this
    unfold inflight
    generalize p.pc = pc at this ⊢
    cases pc <;> first | rfl | cases this
  refine ⟨q.nodup, q.quiet hnone, ?_⟩
  intro rec hrec
  cases hpd : rec.status.isPending with
  | false => rfl
  | true =>
    obtain ⟨p, hp, hi⟩ := q.pend rec hrec hpd
    rw [hnone p hp] at hi
    cases hi

theorem holds_of_inflight {p : Proc} {r : Nat} (h : inflight p = some r) : holds p = none := by
  unfold inflight at h
  unfold holds
  generalize p.pc = pc at h ⊢
  cases pc <;> first | rfl | cases h

/-- stage facts depend on the other processes only through "nobody is in flight" -/
theorem stageOk_procs {l : Ledger} {ps ps' : List Proc} {x : Proc}
    (hq : (∀ y ∈ ps', inflight y = none) → ∀ y ∈ ps, inflight y = none) (h : stageOk l ps x) :
    stageOk l ps' x := by
  unfold stageOk at h ⊢
  generalize x.pc = pc at h ⊢
  cases pc with
  | ready b cur =>
    cases cur with
    | none => exact h
    | some c => exact fun hb hall => h hb (hq hall)
  | created r cur => cases cur <;> exact h
  | mutated r cur => cases cur <;> exact h
  | _ => exact h

/-- a process that is not in flight and whose base is below the newest revision has no stage fact
about the ledger -/
theorem stageOk_of_lt {l l' : Ledger} {ps ps' : List Proc} {x : Proc} (h : stageOk l ps x)
    (hx : inflight x = none) (hlt : ∀ b, holds x = some b → b < maxRev l') : stageOk l' ps' x := by
  unfold stageOk at h ⊢
  unfold inflight at hx
  unfold holds at hlt
  generalize x.pc = pc at h hx hlt ⊢
  cases pc with
  | ready b cur =>
    cases cur with
    | none => exact h
    | some c => exact fun hb => absurd hb (Nat.ne_of_lt (hlt b rfl))
  | created | mutated | superseded => cases hx
  | _ => trivial

theorem excl_middle {a b : List Proc} {p : Proc}
    (h : (a ++ p :: b).Pairwise (fun p q => inflight p = none ∨ inflight q = none)) :
    (∀ x ∈ a ++ b, inflight p = none ∨ inflight x = none) ∧
    (a ++ b).Pairwise (fun p q => inflight p = none ∨ inflight q = none) :=
  List.pairwise_cons.mp ((List.pairwise_middle Or.symm).mp h)

/-- A step of `p` that leaves the ledger alone and `p` as much in flight as it was (start, read,
a refused Create, the cluster mutation).  It may take, keep or drop a base: the base it holds
afterwards is in range and below whatever revision is in flight. -/
theorem Q.internal {m0 : Nat} {l : Ledger} {a b : List Proc} {p p' : Proc} (q : Q m0 l (a ++ p :: b))
    (hinf : inflight p' = inflight p)
    (hh : ∀ b0, holds p' = some b0 → (m0 ≤ b0 ∧ b0 ≤ maxRev l) ∧
      ∀ x ∈ a ++ b, ∀ r, inflight x = some r → b0 < r)
    (hst : stageOk l (a ++ p' :: b) p') : Q m0 l (a ++ p' :: b) := by
  have hquiet : (∀ x ∈ a ++ p' :: b, inflight x = none) → ∀ x ∈ a ++ p :: b, inflight x = none := by
    rw [forall_mem_middle, forall_mem_middle, hinf]
    exact id
  obtain ⟨hIp, hIo⟩ := forall_mem_middle.mp q.infl
  exact {
    nodup := q.nodup
    pos := q.pos
    m0le := q.m0le
    contig := q.contig
    holdsB := forall_mem_middle.mpr ⟨fun b0 hb => (hh b0 hb).1, (forall_mem_middle.mp q.holdsB).2⟩
    excl := by
      have := excl_middle q.excl
      rw [← hinf] at this
      exact (List.pairwise_middle Or.symm).mpr (List.pairwise_cons.mpr this)
    infl := by
      refine forall_mem_middle.mpr ⟨?_, ?_⟩
      · intro r hr
        obtain ⟨h1, h2, h3⟩ := hIp r (hinf ▸ hr)
        refine ⟨h1, h2, forall_mem_middle.mpr ⟨?_, (forall_mem_middle.mp h3).2⟩⟩
        intro b0 hb
        rw [holds_of_inflight hr] at hb
        cases hb
      · intro x hx r hr
        obtain ⟨h1, h2, h3⟩ := hIo x hx r hr
        exact ⟨h1, h2, forall_mem_middle.mpr ⟨fun b0 hb => (hh b0 hb).2 x hx r hr, (forall_mem_middle.mp h3).2⟩⟩
    pend := by
      intro rec hrec hp
      obtain ⟨y, hy, hyr⟩ := q.pend rec hrec hp
      rcases mem_middle.mp hy with h | h
      · exact ⟨p', mem_middle.mpr (Or.inl rfl), by rw [hinf, ← h]; exact hyr⟩
      · exact ⟨y, mem_middle.mpr (Or.inr h), hyr⟩
    quiet := fun h => q.quiet (hquiet h)
    stage := forall_mem_middle.mpr ⟨hst, fun x hx => stageOk_procs hquiet ((forall_mem_middle.mp q.stage).2 x hx)⟩ }

/-- A step of `p` while nobody else is in flight, after which `p` holds no base and every base the
others hold is below the newest revision (that makes their `ready` premises false): what `Q` says
of the others follows, what it says of the ledger and of `p` is to be shown. -/
theorem Q.exclusive {m0 : Nat} {l l' : Ledger} {a b : List Proc} {p p' : Proc} (q : Q m0 l (a ++ p :: b))
    (hoq : ∀ x ∈ a ++ b, inflight x = none) (hhp' : holds p' = none)
    (hlt : ∀ x ∈ a ++ b, ∀ b0, holds x = some b0 → b0 < maxRev l')
    (nodup : (Helm.Ledger.revs l').Nodup) (pos : ∀ x ∈ l', 1 ≤ x.rev) (m0le : m0 ≤ maxRev l')
    (contig : ∀ r, m0 < r → r ≤ maxRev l' → r ∈ Helm.Ledger.revs l')
    (infl : ∀ r, inflight p' = some r →
      r = maxRev l' ∧ ∃ rec ∈ l', rec.rev = r ∧ rec.status.isPending = true)
    (pend : ∀ rec ∈ l', rec.status.isPending = true → inflight p' = some rec.rev)
    (quiet : inflight p' = none → countDeployed l' ≤ 1)
    (stage : stageOk l' (a ++ p' :: b) p') : Q m0 l' (a ++ p' :: b) where
  nodup := nodup
  pos := pos
  m0le := m0le
  contig := contig
  holdsB := by
    refine forall_mem_middle.mpr ⟨?_, ?_⟩
    · intro b0 hb
      rw [hhp'] at hb
      cases hb
    · intro x hx b0 hb
      exact ⟨((forall_mem_middle.mp q.holdsB).2 x hx b0 hb).1, Nat.le_of_lt (hlt x hx b0 hb)⟩
  excl := (List.pairwise_middle Or.symm).mpr
    (List.pairwise_cons.mpr ⟨fun x hx => Or.inr (hoq x hx), (excl_middle q.excl).2⟩)
  infl := by
    refine forall_mem_middle.mpr ⟨?_, ?_⟩
    · intro r hr
      obtain ⟨h1, h2⟩ := infl r hr
      refine ⟨h1, h2, forall_mem_middle.mpr ⟨?_, ?_⟩⟩
      · intro b0 hb
        rw [hhp'] at hb
        cases hb
      · intro x hx b0 hb
        rw [h1]
        exact hlt x hx b0 hb
    · intro x hx r hr
      rw [hoq x hx] at hr
      cases hr
  pend := fun rec hrec hp => ⟨p', mem_middle.mpr (Or.inl rfl), pend rec hrec hp⟩
  quiet := fun h => quiet (forall_mem_middle.mp h).1
  stage := forall_mem_middle.mpr
    ⟨stage, fun x hx => stageOk_of_lt ((forall_mem_middle.mp q.stage).2 x hx) (hoq x hx) (hlt x hx)⟩

/-- while `p` is in flight nobody else is -/
theorem Q.others_quiet {m0 : Nat} {l : Ledger} {a b : List Proc} {p : Proc} (q : Q m0 l (a ++ p :: b))
    {r : Nat} (hp : inflight p = some r) : ∀ x ∈ a ++ b, inflight x = none := by
  intro x hx
  rcases (excl_middle q.excl).1 x hx with h | h
  · rw [hp] at h
    cases h
  · exact h

/-- nobody is in flight when the newest record is not pending -/
theorem Q.nobody_inflight {m0 : Nat} {l : Ledger} {ps : List Proc} (q : Q m0 l ps)
    (h : ∀ rec ∈ l, rec.rev = maxRev l → rec.status.isPending = false) : ∀ x ∈ ps, inflight x = none := by
  intro x hx
  cases hi : inflight x with
  | none => rfl
  | some rx =>
    obtain ⟨h1, ⟨rec, hrec, hrr, hrp⟩, _⟩ := q.infl x hx rx hi
    rw [h rec hrec (hrr.trans h1)] at hrp
    cases hrp

theorem Q.create {m0 : Nat} {l : Ledger} {a b : List Proc} {p p' : Proc} {bb : Nat} {cur : Option Nat}
    {st : Status} {payload : Nat}
    (q : Q m0 l (a ++ p :: b)) (hpc : p.pc = .ready bb cur)
    (hfree : (bb + 1) ∉ Helm.Ledger.revs l)
    (hpc' : p'.pc = .created (bb + 1) cur) (hst : st.isPending = true) (hnd : st ≠ .deployed) :
    Q m0 (l ++ [⟨bb + 1, st, payload⟩]) (a ++ p' :: b) := by
  have hhp : holds p = some bb := by unfold holds; rw [hpc]
  have hip' : inflight p' = some (bb + 1) := by unfold inflight; rw [hpc']
  obtain ⟨hBp, hBo⟩ := forall_mem_middle.mp q.holdsB
  obtain ⟨hb1, hb2⟩ := hBp bb hhp
  -- the base is the newest revision: the one above it would be there otherwise
  have hmax : bb = maxRev l := by
    by_cases h : bb < maxRev l
    · exact absurd (q.contig (bb + 1) (by omega) (by omega)) hfree
    · omega
  -- so nobody is in flight, the revision in flight being above every base
  have hquiet : ∀ x ∈ a ++ p :: b, inflight x = none := by
    intro x hx
    cases hi : inflight x with
    | none => rfl
    | some rx =>
      obtain ⟨h1, _, h3⟩ := q.infl x hx rx hi
      have := h3 p (mem_middle.mpr (Or.inl rfl)) bb hhp
      omega
  have hmax' : maxRev (l ++ [⟨bb + 1, st, payload⟩]) = bb + 1 :=
    maxRev_append_one l _ (fun x hx => Nat.le_succ_of_le (hmax ▸ rev_le_maxRev l x hx))
  have hmem' : ∀ x ∈ l ++ [⟨bb + 1, st, payload⟩], x ∈ l ∨ x = ⟨bb + 1, st, payload⟩ := by
    intro x hx
    simpa using hx
  apply q.exclusive (forall_mem_middle.mp hquiet).2 (by unfold holds; rw [hpc'])
  · intro x hx b0 hb
    have := (hBo x hx b0 hb).2
    omega
  · exact nodup_append_fresh q.nodup hfree
  · intro x hx
    rcases hmem' x hx with h | h
    · exact q.pos x h
    · rw [h]
      exact Nat.succ_pos bb
  · omega
  · intro r h1 h2
    rw [Helm.Ledger.revs, List.map_append]
    by_cases hr : r = bb + 1
    · simp [hr]
    · exact List.mem_append_left _ (q.contig r h1 (by omega))
  · intro r hr
    rw [hip'] at hr
    cases hr
    exact ⟨hmax'.symm, ⟨bb + 1, st, payload⟩, by simp, rfl, hst⟩
  · intro rec hrec hp
    rcases hmem' rec hrec with h | h
    · obtain ⟨y, hy, hyr⟩ := q.pend rec h hp
      rw [hquiet y hy] at hyr
      cases hyr
    · rw [h]
      exact hip'
  · intro h
    rw [hip'] at h
    cases h
  · have hsp := (forall_mem_middle.mp q.stage).1
    unfold stageOk at hsp ⊢
    rw [hpc] at hsp
    rw [hpc']
    cases cur with
    | none =>
      -- an install: the history was empty
      intro x hx hd
      rcases hmem' x hx with h | h
      · have := q.pos x h
        have := rev_le_maxRev l x h
        change bb = 0 at hsp
        omega
      · rw [h] at hd
        exact hnd hd
    | some c =>
      obtain ⟨hc1, hc2⟩ := hsp hmax hquiet
      refine ⟨by omega, ?_⟩
      intro x hx hd
      rcases hmem' x hx with h | h
      · exact hc2 x h hd
      · rw [h] at hd
        exact absurd hd hnd

/-- while `p` is in flight the only pending record is its own -/
theorem Q.pending_rev {m0 : Nat} {l : Ledger} {a b : List Proc} {p : Proc} (q : Q m0 l (a ++ p :: b))
    {r : Nat} (hp : inflight p = some r) : ∀ y ∈ l, y.status.isPending = true → y.rev = r := by
  intro y hy hpd
  obtain ⟨z, hz, hzr⟩ := q.pend y hy hpd
  rcases mem_middle.mp hz with h | h
  · rw [h, hp] at hzr
    exact (Option.some.inj hzr).symm
  · rw [q.others_quiet hp z h] at hzr
    cases hzr

/-- The process in flight with revision `r` gives the record of revision `c` a status that is not
pending; it stays in flight unless that record is its own.  Revisions, and with them all that is
said of bases, are as they were; what is said of deployed records is to be shown. -/
theorem Q.status_step {m0 : Nat} {l : Ledger} {a b : List Proc} {p p' : Proc} {r c : Nat} {s : Status}
    (q : Q m0 l (a ++ p :: b)) (hip : inflight p = some r) (hhp' : holds p' = none)
    (hs : s.isPending = false) (hip' : inflight p' = if c = r then none else some r)
    (quiet : c = r → countDeployed (setStatus l c s) ≤ 1)
    (stage : stageOk (setStatus l c s) (a ++ p' :: b) p') :
    Q m0 (setStatus l c s) (a ++ p' :: b) := by
  obtain ⟨hr, ⟨rec, hrec, hrr, hrp⟩, hlt⟩ := (forall_mem_middle.mp q.infl).1 r hip
  apply q.exclusive (q.others_quiet hip) hhp'
  · intro x hx b0 hb
    rw [maxRev_setStatus, ← hr]
    exact (forall_mem_middle.mp hlt).2 x hx b0 hb
  · rw [Helm.Ledger.revs_setStatus]
    exact q.nodup
  · intro y hy
    rcases mem_setStatus.mp hy with ⟨h, _⟩ | ⟨x, hx, _, rfl⟩
    · exact q.pos y h
    · exact q.pos x hx
  · rw [maxRev_setStatus]
    exact q.m0le
  · rw [maxRev_setStatus, Helm.Ledger.revs_setStatus]
    exact q.contig
  · intro r' hr'
    rw [hip'] at hr'
    split at hr'
    · cases hr'
    · rename_i hc
      cases hr'
      rw [maxRev_setStatus]
      exact ⟨hr, rec, mem_setStatus.mpr (Or.inl ⟨hrec, fun h => hc (h ▸ hrr)⟩), hrr, hrp⟩
  · intro y hy hp
    rcases mem_setStatus.mp hy with ⟨h, hne⟩ | ⟨x, _, _, rfl⟩
    · have hyr := q.pending_rev hip y h hp
      rw [hip', if_neg (fun h => hne (hyr.trans h.symm)), hyr]
    · rw [hs] at hp
      cases hp
  · intro h
    apply quiet
    rw [hip'] at h
    split at h
    · assumption
    · cases h
  · exact stage

theorem Q.supersede {m0 : Nat} {l : Ledger} {a b : List Proc} {p p' : Proc} {r c : Nat}
    (q : Q m0 l (a ++ p :: b)) (hpc : p.pc = .mutated r (some c)) (hpc' : p'.pc = .superseded r) :
    Q m0 (setStatus l c .superseded) (a ++ p' :: b) := by
  have hsp := (forall_mem_middle.mp q.stage).1
  unfold stageOk at hsp
  rw [hpc] at hsp
  obtain ⟨hcr, hdep⟩ := hsp
  have hc : c ≠ r := Nat.ne_of_lt hcr
  apply q.status_step (by unfold inflight; rw [hpc]) (by unfold holds; rw [hpc']) rfl
  · unfold inflight
    rw [hpc', if_neg hc]
  · exact fun h => absurd h hc
  · -- all deployed records had revision `c`
    unfold stageOk
    rw [hpc']
    intro y hy hd
    rcases mem_setStatus.mp hy with ⟨h, hne⟩ | ⟨x, _, _, rfl⟩
    · exact hne (hdep y h hd)
    · cases hd

theorem Q.finish {m0 : Nat} {l : Ledger} {a b : List Proc} {p p' : Proc} {r : Nat}
    (q : Q m0 l (a ++ p :: b)) (hip : inflight p = some r)
    (hno : ∀ x ∈ l, x.status ≠ .deployed) (hpc' : p'.pc = .done true) :
    Q m0 (setStatus l r .deployed) (a ++ p' :: b) := by
  apply q.status_step hip (by unfold holds; rw [hpc']) rfl
  · unfold inflight
    rw [hpc', if_pos rfl]
  · exact fun _ => countDeployed_setStatus_deployed q.nodup hno
  · unfold stageOk
    rw [hpc']
    trivial

/-- an operation that is not in flight gives up -/
theorem Q.fail {m0 : Nat} {l : Ledger} {a b : List Proc} {p : Proc} (q : Q m0 l (a ++ p :: b))
    (hip : inflight p = none) : Q m0 l (a ++ { p with pc := .done false } :: b) :=
  q.internal hip.symm (fun _ hb => nomatch hb) trivial

/-- An operation that is not in flight takes the newest revision as its base, having seen that its
record is not pending (or that there is none): then nobody is in flight. -/
theorem Q.take_base {m0 : Nat} {l : Ledger} {a b : List Proc} {p p' : Proc} (q : Q m0 l (a ++ p :: b))
    (hnp : ∀ rec ∈ l, rec.rev = maxRev l → rec.status.isPending = false)
    (hip' : inflight p' = none) (hh : ∀ b0, holds p' = some b0 → b0 = maxRev l)
    (hst : (∀ x ∈ a ++ p :: b, inflight x = none) → stageOk l (a ++ p' :: b) p') :
    Q m0 l (a ++ p' :: b) := by
  have hquiet := q.nobody_inflight hnp
  obtain ⟨hip, hoq⟩ := forall_mem_middle.mp hquiet
  refine q.internal (hip'.trans hip.symm) ?_ (hst hquiet)
  intro b0 hb
  rw [hh b0 hb]
  refine ⟨⟨q.m0le, Nat.le_refl _⟩, ?_⟩
  intro x hx r hr
  rw [hoq x hx] at hr
  cases hr

/-- one step of one process preserves the invariant -/
theorem stepProc_Q {m0 : Nat} {l : Ledger} {a b : List Proc} {p : Proc} (q : Q m0 l (a ++ p :: b)) :
    Q m0 (stepProc p l).2 (a ++ (stepProc p l).1 :: b) := by
  have hSp := (forall_mem_middle.mp q.stage).1
  unfold stageOk at hSp
  unfold stepProc
  cases hpc : p.pc with
  | done ok => exact q
  | created r cur =>
    rw [hpc] at hSp
    refine q.internal ?_ (fun _ hb => nomatch hb) ?_
    · simp only [inflight, hpc]
    · unfold stageOk
      cases cur <;> exact hSp
  | superseded r =>
    rw [hpc] at hSp
    exact q.finish (by unfold inflight; rw [hpc]) hSp rfl
  | mutated r cur =>
    rw [hpc] at hSp
    cases cur with
    | none => exact q.finish (by unfold inflight; rw [hpc]) hSp rfl
    | some c => exact q.supersede hpc rfl
  | ready bb cur =>
    simp only
    split
    · exact q.fail (by unfold inflight; rw [hpc])
    · rename_i hc
      refine q.create hpc (fun h => hc (List.contains_iff_mem.mpr h)) rfl ?_ ?_
      · cases p.kind <;> rfl
      · cases p.kind <;> decide
  | read bb =>
    have hhp : holds p = some bb := by unfold holds; rw [hpc]
    have hip : inflight p = none := by unfold inflight; rw [hpc]
    refine q.internal hip.symm ?_ ?_
    · intro b0 hb
      cases hb
      refine ⟨(forall_mem_middle.mp q.holdsB).1 bb hhp, ?_⟩
      intro x hx r hr
      exact (q.infl x (mem_middle.mpr (Or.inr hx)) r hr).2.2 p (mem_middle.mpr (Or.inl rfl)) bb hhp
    · unfold stageOk
      intro hmax hall
      have hcount : countDeployed l ≤ 1 := by
        apply q.quiet
        rw [forall_mem_middle] at hall ⊢
        exact ⟨hip, hall.2⟩
      cases hd : deployed? l with
      | none => exact ⟨Nat.le_refl _, fun x hx hdx => absurd hdx (deployed?_none hd x hx)⟩
      | some d =>
        obtain ⟨hdm, hdd⟩ := deployed?_some hd
        refine ⟨hmax ▸ rev_le_maxRev l d hdm, ?_⟩
        intro x hx hdx
        rw [deployed_unique hcount hx hdm hdx hdd]
        rfl
  | start =>
    have hip : inflight p = none := by unfold inflight; rw [hpc]
    simp only
    split
    · split
      · rename_i he
        rw [List.isEmpty_iff.mp he] at q ⊢
        exact q.take_base (fun _ h => nomatch h) rfl (fun _ hb => (Option.some.inj hb).symm) (fun _ => rfl)
      · exact q.fail hip
    · split
      · exact q.fail hip
      · rename_i r hl
        obtain ⟨hrm, hrr⟩ := last?_spec hl
        split
        · exact q.fail hip
        · rename_i hnp
          have hnp' : ∀ rec ∈ l, rec.rev = maxRev l → rec.status.isPending = false := by
            intro rec hrec h
            rw [eq_of_rev q.nodup hrec hrm (h.trans hrr.symm)]
            simpa using hnp
          split
          · rename_i hdp
            refine q.take_base hnp' rfl (fun _ hb => (Option.some.inj hb).symm.trans hrr) ?_
            intro hquiet hb hall
            refine ⟨Nat.le_refl _, ?_⟩
            intro x hx hdx
            rw [deployed_unique (q.quiet hquiet) hx hrm hdx hdp]
          · exact q.take_base hnp' rfl (fun _ hb => (Option.some.inj hb).symm.trans hrr) (fun _ => trivial)

theorem run_Q {m0 : Nat} (w : World) (schedule : List Nat) (q : Q m0 w.ledger w.procs) :
    Q m0 (run w schedule).ledger (run w schedule).procs :=
  run_induction (fun _ _ _ _ => stepProc_Q) w schedule q

/-- a well-formed initial history: unique revisions numbered from 1, at most one deployed,
nothing pending -/
structure WF0 (l : Ledger) : Prop where
  nodup : (Helm.Ledger.revs l).Nodup
  pos : ∀ x ∈ l, 1 ≤ x.rev
  noPending : ∀ x ∈ l, x.status.isPending = false
  oneDeployed : countDeployed l ≤ 1

theorem init_Q (l : Ledger) (ps : List Proc) (hl : WF0 l)
    (hf : ∀ p ∈ ps, p.pc = .start) : Q (maxRev l) l ps := by
  have hquiet : ∀ p ∈ ps, inflight p = none := by
    intro p hp
    unfold inflight
    rw [hf p hp]
  exact {
    nodup := hl.nodup
    pos := hl.pos
    m0le := Nat.le_refl _
    contig := fun r h1 h2 => absurd h2 (Nat.not_le_of_lt h1)
    holdsB := by
      intro p hp b hb
      unfold holds at hb
      rw [hf p hp] at hb
      cases hb
    excl := List.pairwise_of_forall_mem_list (fun p hp _ _ => Or.inl (hquiet p hp))
    infl := by
      intro p hp r hr
      rw [hquiet p hp] at hr
      cases hr
    pend := by
      intro rec hrec hp
      rw [hl.noPending rec hrec] at hp
      cases hp
    quiet := fun _ => hl.oneDeployed
    stage := by
      intro p hp
      unfold stageOk
      rw [hf p hp]
      trivial }

/-- For ANY number of concurrent installs/upgrades, ANY schedule and ANY well-formed initial
history: once every operation has returned, the history has unique revisions, at most one
deployed revision and no pending revision. -/
theorem quiescence_wellformed (l : Ledger) (ps : List Proc) (schedule : List Nat) (hl : WF0 l)
    (hf : ∀ p ∈ ps, p.pc = .start)
    (hdone : ∀ p ∈ (run ⟨l, ps⟩ schedule).procs, p.isDone = true) :
    (Helm.Ledger.revs (run ⟨l, ps⟩ schedule).ledger).Nodup ∧
    countDeployed (run ⟨l, ps⟩ schedule).ledger ≤ 1 ∧
    ∀ rec ∈ (run ⟨l, ps⟩ schedule).ledger, rec.status.isPending = false :=
  (run_Q ⟨l, ps⟩ schedule (init_Q l ps hl hf)).quiescent hdone

/-- ... and at every moment, not only at quiescence: at most one operation is between its
Create and its final Update. -/
theorem at_most_one_in_flight (l : Ledger) (ps : List Proc) (schedule : List Nat) (hl : WF0 l)
    (hf : ∀ p ∈ ps, p.pc = .start) :
    (run ⟨l, ps⟩ schedule).procs.Pairwise (fun p q => inflight p = none ∨ inflight q = none) :=
  (run_Q ⟨l, ps⟩ schedule (init_Q l ps hl hf)).excl

end Helm.Conc
