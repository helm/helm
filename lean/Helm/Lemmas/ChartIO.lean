import Helm.Model.ChartIO
import Helm.Lemmas.ArchivePath
namespace Helm.ChartIO
open Helm.ArchivePath

/-- file names a chart can carry through packaging: relative, clean, slash-separated, no
backslash, not starting with `..`, no drive prefix -/
def CleanName (n : Str) : Prop :=
  n ≠ [] ∧ '\\' ∉ n ∧ (∀ c ∈ splitOn '/' n, Normal c) ∧ dotdot.isPrefixOf n = false ∧ drivePrefix n = false

theorem accStep_reqLock (apiV1 : Bool) (a : Acc) {n : Str} (d : Bytes) (hc : classify n = .reqLock) :
    accStep apiV1 a ⟨n, d⟩ =
      { a with lock := some d, files := if apiV1 then a.files ++ [⟨n, d⟩] else a.files } := by
  rw [accStep, hc]

end Helm.ChartIO
