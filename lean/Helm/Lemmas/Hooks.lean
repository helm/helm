/-
Lemmas about the hook model: `hookByWeight` is a total preorder, the stable insertion sort
sorts, permutes and is stable; the shape of the event trace of `runHooks`.
-/
import Helm.Model.Hooks

namespace Helm.Hooks

def hookLe (a b : Hook) : Prop := hookLt b a = false

theorem hookLe_iff (a b : Hook) :
    hookLe a b ↔ a.weight < b.weight ∨ (a.weight = b.weight ∧ a.name ≤ b.name) := by
  unfold hookLe hookLt
  by_cases h : b.weight = a.weight
  · simp [h, String.not_lt]
  · simp [h, Ne.symm h]
    omega

theorem hookLe_refl (a : Hook) : hookLe a a := by
  rw [hookLe_iff]; exact Or.inr ⟨rfl, String.le_refl _⟩

theorem hookLe_trans {a b c : Hook} (h1 : hookLe a b) (h2 : hookLe b c) : hookLe a c := by
  rw [hookLe_iff] at *
  rcases h1 with h1 | ⟨e1, n1⟩ <;> rcases h2 with h2 | ⟨e2, n2⟩
  · left; omega
  · left; omega
  · left; omega
  · right; exact ⟨by omega, String.le_trans n1 n2⟩

theorem hookLe_total (a b : Hook) : hookLe a b ∨ hookLe b a := by
  rw [hookLe_iff, hookLe_iff]
  by_cases h : a.weight = b.weight
  · rcases String.le_total a.name b.name with hn | hn
    · exact Or.inl (Or.inr ⟨h, hn⟩)
    · exact Or.inr (Or.inr ⟨h.symm, hn⟩)
  · by_cases hl : a.weight < b.weight
    · exact Or.inl (Or.inl hl)
    · exact Or.inr (Or.inl (by omega))

theorem hookLe_of_lt {a b : Hook} (h : hookLt a b = true) : hookLe a b := by
  rcases hookLe_total a b with h1 | h1
  · exact h1
  · rw [hookLe, h] at h1
    cases h1

theorem insertHook_perm (x : Hook) (l : List Hook) : (insertHook x l).Perm (x :: l) := by
  induction l with
  | nil => exact List.Perm.refl _
  | cons y ys ih =>
    unfold insertHook
    split
    · exact (List.Perm.cons y ih).trans (List.Perm.swap x y ys)
    · exact List.Perm.refl _

theorem sortHooks_perm (l : List Hook) : (sortHooks l).Perm l := by
  induction l with
  | nil => exact List.Perm.refl _
  | cons x xs ih => exact (insertHook_perm x _).trans (List.Perm.cons x ih)

theorem insertHook_sorted (x : Hook) (l : List Hook) (h : l.Pairwise hookLe) :
    (insertHook x l).Pairwise hookLe := by
  induction l with
  | nil => exact List.pairwise_singleton _ _
  | cons y ys ih =>
    rw [List.pairwise_cons] at h
    unfold insertHook
    split
    · rename_i hlt
      have hy : ∀ z ∈ x :: ys, hookLe y z := List.forall_mem_cons.mpr ⟨hookLe_of_lt hlt, h.1⟩
      exact List.pairwise_cons.mpr ⟨fun z hz => hy z ((insertHook_perm x ys).subset hz), ih h.2⟩
    · rename_i hlt
      have hxy : hookLe x y := Bool.eq_false_iff.mpr hlt
      exact List.pairwise_cons.mpr
        ⟨List.forall_mem_cons.mpr ⟨hxy, fun z hz => hookLe_trans hxy (h.1 z hz)⟩, List.pairwise_cons.mpr h⟩

theorem sortHooks_sorted (l : List Hook) : (sortHooks l).Pairwise hookLe := by
  induction l with
  | nil => exact List.Pairwise.nil
  | cons x xs ih => exact insertHook_sorted x _ ih

/-- same weight and name -/
def sameKey (a b : Hook) : Bool := a.weight = b.weight && a.name = b.name

theorem hookLt_sameKey {k a b : Hook} (ha : sameKey k a = true) (hb : sameKey k b = true) :
    hookLt a b = false := by
  simp only [sameKey, Bool.and_eq_true, decide_eq_true_eq] at ha hb
  simp [hookLt, ← ha.1, ← ha.2, ← hb.1, ← hb.2]

theorem insertHook_filter (x : Hook) (l : List Hook) (k : Hook) :
    (insertHook x l).filter (sameKey k) = (x :: l).filter (sameKey k) := by
  induction l with
  | nil => rfl
  | cons y ys ih =>
    unfold insertHook
    split
    · rename_i hlt
      simp only [List.filter_cons, ih]
      -- `x` jumps over `y` only if `y < x`: then not both pass the filter
      by_cases hx : sameKey k x = true
      · have hy : sameKey k y = false := by
          apply Bool.eq_false_iff.mpr
          intro hy
          rw [hookLt_sameKey hy hx] at hlt
          cases hlt
        simp [hx, hy]
      · simp [hx]
    · rfl

theorem sortHooks_stable (l : List Hook) (k : Hook) :
    (sortHooks l).filter (sameKey k) = l.filter (sameKey k) := by
  induction l with
  | nil => rfl
  | cons x xs ih =>
    unfold sortHooks
    rw [insertHook_filter, List.filter_cons, List.filter_cons, ih]

/-- what one successful hook contributes: delete-before-creation if the policy says so, then
create, then watch -/
def block (h : Hook) : List HEv := delIf h .before ++ [.create h.key, .watch h.key]

def createOf : HEv → Option String
  | .create n => some n
  | .del _ => none
  | .watch _ => none
  | .res => none

theorem creates_delIf (h : Hook) (p : Policy) : (delIf h p).filterMap createOf = [] := by
  unfold delIf
  split <;> rfl

theorem creates_dels (l : List Hook) (p : Policy) :
    (l.flatMap (delIf · p)).filterMap createOf = [] := by
  induction l with
  | nil => rfl
  | cons h t ih => rw [List.flatMap_cons, List.filterMap_append, creates_delIf, ih, List.append_nil]

theorem contains_exDel_before (ex : List String) (h : Hook) (hb : hasPol h .before = true) :
    (exDel ex h .before).contains h.key = false := by
  simp [exDel, hb]

/-- A run of hooks that succeed and carry before-hook-creation (the default) contributes its
blocks, and the loop goes on from there with those hooks done. -/
theorem runHooks_append (fails : String → Bool) (a b : List Hook)
    (hf : ∀ x ∈ a, fails x.name = false) (hb : ∀ x ∈ a, hasPol x .before = true)
    (ex : List String) (done : List Hook) :
    ∃ ex', (runHooks fails ex done (a ++ b)).ok = (runHooks fails ex' (done ++ a) b).ok ∧
      (runHooks fails ex done (a ++ b)).evs =
        a.flatMap block ++ (runHooks fails ex' (done ++ a) b).evs := by
  induction a generalizing ex done with
  | nil => exact ⟨ex, by simp⟩
  | cons h rest ih =>
    rw [List.forall_mem_cons] at hf hb
    obtain ⟨ex', i1, i2⟩ := ih hf.2 hb.2 (h.key :: exDel ex h .before) (done ++ [h])
    refine ⟨ex', ?_⟩
    rw [List.cons_append, runHooks]
    simp only [contains_exDel_before ex h hb.1, hf.1, Bool.false_eq_true, if_false, i1, i2]
    simp [block]

/-- Without any hypothesis on policies: the hooks created are a prefix of the sorted list; if
the run succeeds they are all of it, and none failed. -/
theorem run_creates (fails : String → Bool) (ex : List String) (done todo : List Hook) :
    (runHooks fails ex done todo).evs.filterMap createOf <+: todo.map (·.key) ∧
    ((runHooks fails ex done todo).ok = true →
      (runHooks fails ex done todo).evs.filterMap createOf = todo.map (·.key) ∧
      ∀ h ∈ todo, fails h.name = false) := by
  induction todo generalizing ex done with
  | nil => simp [runHooks, creates_dels]
  | cons h rest ih =>
    rw [runHooks]
    dsimp only
    split
    · simp [creates_delIf, createOf]
    · split
      · simp [List.filterMap_cons, creates_delIf, creates_dels, createOf]
      · rename_i hf
        simpa [List.filterMap_cons, creates_delIf, createOf, hf] using
          ih (h.key :: exDel ex h .before) (done ++ [h])

/-- one hook at a time: a create is followed by the watch of the same hook (or is the last
event: the create was refused); nothing else happens while a hook runs -/
def seqOk : Option String → List HEv → Bool
  | _, [] => true
  | none, .create n :: r => seqOk (some n) r
  | none, .del _ :: r => seqOk none r
  | none, .res :: r => seqOk none r
  | some n, .watch m :: r => n = m && seqOk none r
  | _, _ => false

theorem seqOk_delIf (h : Hook) (p : Policy) (r : List HEv) :
    seqOk none (delIf h p ++ r) = seqOk none r := by
  unfold delIf
  split <;> simp [seqOk]

theorem seqOk_dels (l : List Hook) (p : Policy) : seqOk none (l.flatMap (delIf · p)) = true := by
  induction l with
  | nil => rfl
  | cons h t ih => rw [List.flatMap_cons, seqOk_delIf, ih]

theorem seqOk_block (h : Hook) (p : Policy) (k : String) (r : List HEv) :
    seqOk none (delIf h p ++ [.create k] ++ [.watch k] ++ r) = seqOk none r := by
  rw [List.append_assoc, List.append_assoc, seqOk_delIf]
  simp [seqOk]

theorem run_sequential (fails : String → Bool) (ex : List String) (done todo : List Hook) :
    seqOk none (runHooks fails ex done todo).evs = true := by
  induction todo generalizing ex done with
  | nil => exact seqOk_dels done.reverse .succeeded
  | cons h rest ih =>
    rw [runHooks]
    dsimp only
    split
    · rw [seqOk_delIf]
      rfl
    · split
      · rw [List.append_assoc, seqOk_block, seqOk_delIf]
        exact seqOk_dels done .succeeded
      · rw [seqOk_block]
        exact ih _ _

end Helm.Hooks
