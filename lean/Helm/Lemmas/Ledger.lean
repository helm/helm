/-
The release ledger as a list of records: what the reads (`get?`, `maxRev`, `last?`, `deployed?`,
`currentOf`) return, how `put` (the effect of `driver.Update`) and `setStatus` rewrite it, and what each
storage primitive may do under any decision.
-/
import Helm.Model.Ledger
namespace Helm.Ledger

def revs (l : Ledger) : List Nat := l.map (·.rev)

def countDeployed (l : Ledger) : Nat := l.countP (·.status = .deployed)

/-- the ledger after `driver.Update(r)` went through: the record with `r`'s revision is `r` -/
def put (l : Ledger) (r : Rec) : Ledger := l.map fun x => if x.rev = r.rev then r else x

/-! ### reads -/

theorem mem_revs {l : Ledger} {x : Rec} (hx : x ∈ l) : x.rev ∈ revs l := List.mem_map.mpr ⟨x, hx, rfl⟩

theorem ne_rev_of_not_mem {l : Ledger} {x : Rec} {n : Nat} (hx : x ∈ l) (hn : n ∉ revs l) : n ≠ x.rev :=
  fun e => hn (e ▸ mem_revs hx)

theorem get?_isSome_iff (l : Ledger) (rev : Nat) : (get? l rev).isSome ↔ rev ∈ revs l := by
  simp only [get?, revs, List.find?_isSome, List.mem_map, decide_eq_true_eq]

theorem get?_mem {l : Ledger} {rev : Nat} {r : Rec} (h : get? l rev = some r) : r ∈ l ∧ r.rev = rev :=
  ⟨List.mem_of_find?_eq_some h, by simpa using List.find?_some h⟩

/-- in a history with unique revisions a record is determined by its revision -/
theorem eq_of_rev {l : Ledger} (hnd : (revs l).Nodup) {x y : Rec} (hx : x ∈ l) (hy : y ∈ l) (h : x.rev = y.rev) :
    x = y := by
  have hp : l.Pairwise (fun a b => a.rev ≠ b.rev) := List.pairwise_map.mp hnd
  exact List.Pairwise.forall_of_forall_of_flip (R := fun a b => a.rev = b.rev → a = b) (fun _ _ _ => rfl)
    (hp.imp fun hne e => absurd e hne) (hp.imp fun hne e => absurd e.symm hne) hx hy h

theorem get?_of_mem_nodup {l : Ledger} (hnd : (revs l).Nodup) {x : Rec} (hx : x ∈ l) : get? l x.rev = some x := by
  cases hg : get? l x.rev with
  | none => have := (get?_isSome_iff l x.rev).mpr (mem_revs hx); rw [hg] at this; cases this
  | some y => obtain ⟨hym, hyr⟩ := get?_mem hg; rw [eq_of_rev hnd hym hx hyr]

/-- `maxRev` in core's terms -/
theorem maxRev_eq_max? (l : Ledger) : maxRev l = (revs l).max?.getD 0 := by
  have := List.foldl_max (l := revs l) (a := 0)
  rw [revs, List.foldl_map, Nat.zero_max] at this
  exact this

theorem maxRev_spec {l : Ledger} (hne : l ≠ []) : maxRev l ∈ revs l ∧ ∀ r ∈ revs l, r ≤ maxRev l := by
  rw [maxRev_eq_max?]
  cases h : (revs l).max? with
  | none => exact absurd (List.map_eq_nil_iff.mp (List.max?_eq_none_iff.mp h)) hne
  | some m => exact List.max?_eq_some_iff.mp h

theorem rev_le_maxRev (l : Ledger) (x : Rec) (hx : x ∈ l) : x.rev ≤ maxRev l :=
  (maxRev_spec (List.ne_nil_of_mem hx)).2 _ (mem_revs hx)

theorem maxRev_eq {l : Ledger} {r : Rec} (hr : r ∈ l) (h : ∀ x ∈ l, x.rev ≤ r.rev) : maxRev l = r.rev := by
  obtain ⟨x, hx, e⟩ := List.mem_map.mp (maxRev_spec (List.ne_nil_of_mem hr)).1
  exact Nat.le_antisymm (e ▸ h x hx) (rev_le_maxRev l r hr)

theorem maxRev_append_one (l : Ledger) (r : Rec) (h : ∀ x ∈ l, x.rev ≤ r.rev) : maxRev (l ++ [r]) = r.rev :=
  maxRev_eq (by simp) (List.forall_mem_append.mpr ⟨h, by simp⟩)

theorem last?_nil : last? [] = none := rfl

theorem last?_spec {l : Ledger} {r : Rec} (h : last? l = some r) : r ∈ l ∧ r.rev = maxRev l := by
  unfold last? at h
  split at h
  · cases h
  · exact get?_mem h

theorem rev_le_last {l : Ledger} {r : Rec} (h : last? l = some r) : ∀ x ∈ l, x.rev ≤ r.rev :=
  fun x hx => (last?_spec h).2 ▸ rev_le_maxRev l x hx

/-- a revision above the highest is not stored -/
theorem succ_last_not_mem {l : Ledger} {r : Rec} (h : last? l = some r) : r.rev + 1 ∉ revs l := by
  intro hm
  obtain ⟨x, hx, hxr⟩ := List.mem_map.mp hm
  have := rev_le_last h x hx
  omega

theorem last?_append_one {l : Ledger} {r : Rec} (hnd : (revs (l ++ [r])).Nodup) (h : ∀ x ∈ l, x.rev ≤ r.rev) :
    last? (l ++ [r]) = some r := by
  have : (l ++ [r]).isEmpty = false := by simp
  rw [last?, this, maxRev_append_one l r h]
  exact get?_of_mem_nodup hnd (by simp)

theorem deployed?_some {l : Ledger} {d : Rec} (h : deployed? l = some d) : d ∈ l ∧ d.status = .deployed := by
  unfold deployed? at h
  simp only at h
  split at h
  · cases h
  · have hm := List.mem_filter.mp (get?_mem h).1
    exact ⟨hm.1, by simpa using hm.2⟩

theorem deployed?_none {l : Ledger} (h : deployed? l = none) : ∀ x ∈ l, x.status ≠ .deployed := by
  intro x hx hd
  unfold deployed? at h
  simp only at h
  have hmem : x ∈ l.filter (fun r => decide (r.status = .deployed)) := List.mem_filter.mpr ⟨hx, by simp [hd]⟩
  split at h
  · rename_i he
    rw [List.isEmpty_iff.mp he] at hmem; cases hmem
  · have := (get?_isSome_iff _ _).mpr (maxRev_spec (List.ne_nil_of_mem hmem)).1
    rw [h] at this
    cases this

/-- the record an upgrade builds on is a stored one, and the deployed one unless nothing is deployed -/
theorem currentOf_spec {l : Ledger} {cur : Rec} (h : currentOf l = some cur) :
    cur ∈ l ∧ (cur.status = .deployed ∨ ∀ x ∈ l, x.status ≠ .deployed) := by
  unfold currentOf at h
  split at h
  · cases h
  · rename_i lastRec hl
    split at h
    · rename_i hld
      cases h
      exact ⟨(last?_spec hl).1, Or.inl hld⟩
    · split at h
      · rename_i hd
        cases h
        exact ⟨(deployed?_some hd).1, Or.inl (deployed?_some hd).2⟩
      · rename_i hd
        split at h
        · cases h
          exact ⟨(last?_spec hl).1, Or.inr (deployed?_none hd)⟩
        · cases h

theorem currentOf_mem {l : Ledger} {cur : Rec} (h : currentOf l = some cur) : cur ∈ l := (currentOf_spec h).1

/-! ### at most one deployed record -/

theorem deployed_unique {l : Ledger} (hc : countDeployed l ≤ 1) {x y : Rec} (hx : x ∈ l) (hy : y ∈ l)
    (dx : x.status = .deployed) (dy : y.status = .deployed) : x = y := by
  -- both are in the list of deployed records, which has at most one member
  have hx' : x ∈ l.filter (·.status = .deployed) := List.mem_filter.mpr ⟨hx, by simpa using dx⟩
  have hy' : y ∈ l.filter (·.status = .deployed) := List.mem_filter.mpr ⟨hy, by simpa using dy⟩
  rw [countDeployed, List.countP_eq_length_filter] at hc
  generalize l.filter (·.status = .deployed) = ds at hx' hy' hc
  match ds, hc with
  | [], _ => cases hx'
  | [a], _ => rw [List.mem_singleton.mp hx', List.mem_singleton.mp hy']
  | _ :: _ :: _, h => exact absurd h (by simp)

/-- in a history with at most one deployed record, the record an upgrade builds on is that one -/
theorem deployed_is_cur {l : Ledger} {cur : Rec} (hc : countDeployed l ≤ 1) (hcur : currentOf l = some cur) :
    ∀ x ∈ l, x.status = .deployed → x = cur := by
  intro x hx hd
  obtain ⟨hcm, hcd | hno⟩ := currentOf_spec hcur
  · exact deployed_unique hc hx hcm hd hcd
  · exact absurd hd (hno x hx)

/-! ### `put` and `setStatus` -/

/-- rewriting records in place keeps the revisions -/
theorem revs_map {l : Ledger} {f : Rec → Rec} (hf : ∀ x, (f x).rev = x.rev) : revs (l.map f) = revs l := by
  rw [revs, List.map_map]
  exact List.map_congr_left fun x _ => hf x

theorem revs_put (l : Ledger) (r : Rec) : revs (put l r) = revs l :=
  revs_map fun x => by split <;> simp_all

theorem revs_setStatus (l : Ledger) (rev : Nat) (st : Status) : revs (setStatus l rev st) = revs l :=
  revs_map fun x => by split <;> rfl

theorem maxRev_setStatus (l : Ledger) (r : Nat) (s : Status) : maxRev (setStatus l r s) = maxRev l := by
  rw [maxRev_eq_max?, maxRev_eq_max?, revs_setStatus]

theorem mem_setStatus {l : Ledger} {r : Nat} {s : Status} {y : Rec} :
    y ∈ setStatus l r s ↔ (y ∈ l ∧ y.rev ≠ r) ∨ ∃ x ∈ l, x.rev = r ∧ y = { x with status := s } := by
  unfold setStatus
  rw [List.mem_map]
  constructor
  · rintro ⟨x, hx, rfl⟩
    by_cases h : x.rev = r
    · exact Or.inr ⟨x, hx, h, by simp [h]⟩
    · simp only [h, if_false]
      exact Or.inl ⟨hx, h⟩
  · rintro (⟨hy, hne⟩ | ⟨x, hx, hxr, rfl⟩)
    · exact ⟨y, hy, by simp [hne]⟩
    · exact ⟨x, hx, by simp [hxr]⟩

/-- where nothing is deployed, marking one revision deployed leaves at most one deployed record -/
theorem countDeployed_setStatus_deployed {l : Ledger} {r : Nat} (hnd : (revs l).Nodup)
    (hno : ∀ x ∈ l, x.status ≠ .deployed) : countDeployed (setStatus l r .deployed) ≤ 1 := by
  -- the deployed records of the new ledger are those of revision `r` in the old one
  have : countDeployed (setStatus l r .deployed) = (revs l).count r := by
    unfold countDeployed setStatus revs
    rw [List.countP_map, List.count_eq_countP, List.countP_map]
    apply List.countP_congr
    intro x hx
    by_cases h : x.rev = r
    · simp [h]
    · simp [h, hno x hx]
  rw [this]
  exact List.nodup_iff_count.mp hnd r

theorem put_put (l : Ledger) (r : Rec) : put (put l r) r = put l r := by
  simp only [put, List.map_map]
  apply List.map_congr_left
  intro x _
  simp only [Function.comp]
  split <;> simp

theorem put_append (a b : Ledger) (r : Rec) : put (a ++ b) r = put a r ++ put b r := List.map_append

theorem put_of_not_mem {l : Ledger} {r : Rec} (h : r.rev ∉ revs l) : put l r = l := by
  conv => rhs; rw [← List.map_id l]
  apply List.map_congr_left
  intro x hx
  simp [(ne_rev_of_not_mem hx h).symm]

/-- re-recording a record that is stored unchanged -/
theorem put_of_mem {l : Ledger} {r : Rec} (hnd : (revs l).Nodup) (h : r ∈ l) : put l r = l := by
  conv => rhs; rw [← List.map_id l]
  apply List.map_congr_left
  intro x hx
  by_cases hxr : x.rev = r.rev
  · simp [eq_of_rev hnd hx h hxr]
  · simp [hxr]

theorem put_status {l : Ledger} {c : Rec} (hnd : (revs l).Nodup) (hc : c ∈ l) (st : Status) :
    put l { c with status := st } = setStatus l c.rev st := by
  apply List.map_congr_left
  intro x hx
  by_cases hxc : x.rev = c.rev
  · simp [eq_of_rev hnd hx hc hxc]
  · simp [hxc]

/-- the newest record, appended last, is rewritten in place -/
theorem put_last {l : Ledger} {x r : Rec} (h : x.rev ∉ revs l) (hr : r.rev = x.rev) :
    put (l ++ [x]) r = l ++ [r] := by
  rw [put_append, put_of_not_mem (hr ▸ h)]
  simp [put, hr]

/-- ... and a status change of an older record happens underneath it -/
theorem put_status_front {l : Ledger} {c x : Rec} (hnd : (revs l).Nodup) (hc : c ∈ l) (hx : x.rev ∉ revs l)
    (st : Status) : put (l ++ [x]) { c with status := st } = setStatus l c.rev st ++ [x] := by
  rw [put_append, put_status hnd hc]
  simp [put, ne_rev_of_not_mem hc hx]

theorem nodup_append_fresh {l : Ledger} {r : Rec} (hnd : (revs l).Nodup) (h : r.rev ∉ revs l) :
    (revs (l ++ [r])).Nodup := by
  rw [revs, List.map_append]
  exact (List.perm_append_singleton _ _).nodup_iff.mpr (List.nodup_cons.mpr ⟨h, hnd⟩)

/-! ### the storage primitives under any decision -/

theorem storageCreate_zero (s : St) (r : Rec) : storageCreate s 0 r = stCreate s r := rfl

theorem nextDec_ledger (s : St) : (nextDec s).2.ledger = s.ledger := by
  unfold nextDec
  split <;> rfl

/-- create-if-absent: the record is appended when its revision is free and the write goes
through; otherwise the call fails and the ledger is as it was -/
theorem stCreate_spec (s : St) (r : Rec) :
    ((stCreate s r).1 = .ok ∧ r.rev ∉ revs s.ledger ∧ (stCreate s r).2.ledger = s.ledger ++ [r]) ∨
    ((stCreate s r).1 ≠ .ok ∧ (stCreate s r).2.ledger = s.ledger) := by
  rw [← nextDec_ledger s]
  unfold stCreate
  obtain ⟨d, s'⟩ := nextDec s
  cases d
  · simp only
    split
    · exact Or.inr ⟨by simp, rfl⟩
    · rename_i hp
      exact Or.inl ⟨rfl, by rwa [get?_isSome_iff] at hp, rfl⟩
  · exact Or.inr ⟨by simp, rfl⟩
  · exact Or.inr ⟨by simp, rfl⟩

theorem stUpdate_spec (s : St) (r : Rec) :
    (stUpdate s r).2.ledger = put s.ledger r ∨ (stUpdate s r).2.ledger = s.ledger := by
  rw [← nextDec_ledger s]
  unfold stUpdate
  obtain ⟨d, s'⟩ := nextDec s
  cases d
  · simp only
    split
    · exact Or.inl rfl
    · exact Or.inr rfl
  · exact Or.inr rfl
  · exact Or.inr rfl

theorem stDelete_spec (s : St) (rev : Nat) :
    (stDelete s rev).2.ledger = s.ledger.filter (·.rev ≠ rev) ∨ (stDelete s rev).2.ledger = s.ledger := by
  rw [← nextDec_ledger s]
  unfold stDelete
  obtain ⟨d, s'⟩ := nextDec s
  cases d
  · simp only
    split
    · exact Or.inl rfl
    · exact Or.inr rfl
  · exact Or.inr rfl
  · exact Or.inr rfl

/-! ### ascending sort (`relutil.SortByRevision`) -/

theorem insertAsc_perm (x : Nat) (l : List Nat) : (insertAsc x l).Perm (x :: l) := by
  induction l with
  | nil => exact .refl _
  | cons y r ih =>
    simp only [insertAsc]
    split
    · exact .refl _
    · exact (ih.cons y).trans (.swap x y r)

theorem sortAsc_perm (l : List Nat) : (sortAsc l).Perm l := by
  induction l with
  | nil => exact .refl _
  | cons x r ih => exact (insertAsc_perm x _).trans (ih.cons x)

theorem mem_sortAsc (y : Nat) (l : List Nat) : y ∈ sortAsc l ↔ y ∈ l := (sortAsc_perm l).mem_iff

theorem mem_revsAsc (l : Ledger) (r : Nat) : r ∈ revsAsc l ↔ r ∈ revs l := mem_sortAsc r _

end Helm.Ledger
