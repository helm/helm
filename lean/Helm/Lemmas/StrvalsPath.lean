import Helm.Model.Strvals
import Helm.Lemmas.Values
/-! Round trip of the documented `--set` escaping: parsing the escaped rendering of a key path
and value stores exactly that value at exactly that path. -/
namespace Helm.Strvals
open Helm.Values

/-- The runes the documentation tells users to escape with a backslash. -/
def special (c : Char) : Bool :=
  c = '.' || c = ',' || c = '=' || c = '[' || c = ']' || c = '\\' || c = '{' || c = '}'

def escape (s : Str) : Str := s.flatMap fun c => if special c then ['\\', c] else [c]

theorem escape_cons (c : Char) (s : Str) :
    escape (c :: s) = (if special c then ['\\', c] else [c]) ++ escape s := by
  simp [escape]

theorem ru_nil (e : Bool) (stop : Char → Bool) (acc : Str) :
    runesUntil e stop [] acc = (acc.reverse, none, []) := by
  rw [runesUntil.eq_def]

theorem ru_stop (e : Bool) (stop : Char → Bool) (c : Char) (rest acc : Str) (h : stop c = true) :
    runesUntil e stop (c :: rest) acc = (acc.reverse, some c, rest) := by
  rw [runesUntil.eq_def]; simp [h]

theorem ru_esc (stop : Char → Bool) (n : Char) (rest acc : Str) (h : stop '\\' = false) :
    runesUntil true stop ('\\' :: n :: rest) acc = runesUntil true stop rest (n :: acc) := by
  rw [runesUntil.eq_def]; simp [h]

theorem ru_plain (e : Bool) (stop : Char → Bool) (c : Char) (rest acc : Str) (h : stop c = false)
    (hc : c ≠ '\\') :
    runesUntil e stop (c :: rest) acc = runesUntil e stop rest (c :: acc) := by
  rw [runesUntil.eq_def]; simp [h, hc]

theorem runesUntil_escape (stop : Char → Bool) (hs : ∀ x, stop x = true → special x = true)
    (hb : stop '\\' = false) (s tl acc : Str) :
    runesUntil true stop (escape s ++ tl) acc = runesUntil true stop tl (s.reverse ++ acc) := by
  induction s generalizing acc with
  | nil => rfl
  | cons x s ih =>
    rw [escape_cons, List.append_assoc, List.reverse_cons, List.append_assoc, List.singleton_append, ← ih]
    by_cases hx : special x = true
    · rw [if_pos hx]
      exact ru_esc _ _ _ _ hb
    · have hsx : stop x = false := by
        cases h : stop x with
        | false => rfl
        | true => exact absurd (hs x h) hx
      have hxb : x ≠ '\\' := by
        intro h
        subst h
        exact hx (by decide)
      rw [if_neg hx]
      exact ru_plain _ _ _ _ _ hsx hxb

theorem runesUntil_escape_stop (stop : Char → Bool) (hs : ∀ x, stop x = true → special x = true)
    (hb : stop '\\' = false) (s : Str) (c : Char) (rest : Str) (hc : stop c = true) :
    runesUntil true stop (escape s ++ c :: rest) [] = (s, some c, rest) := by
  rw [runesUntil_escape stop hs hb, ru_stop _ _ _ _ _ hc, List.append_nil, List.reverse_reverse]

theorem runesUntil_escape_eof (stop : Char → Bool) (hs : ∀ x, stop x = true → special x = true)
    (hb : stop '\\' = false) (s : Str) :
    runesUntil true stop (escape s) [] = (s, none, []) := by
  rw [← List.append_nil (escape s), runesUntil_escape stop hs hb, ru_nil, List.append_nil,
    List.reverse_reverse]

/-- Store `v` at key path `ks`, creating intermediate maps (and replacing non-maps, which the
`compat` guard excludes -- there the real parser fails). -/
def setPath : List Str → Tbl → Val → Tbl
  | [], t, _ => t
  | [k], t, v => t.set (String.ofList k) v
  | k :: p, t, v =>
    t.set (String.ofList k) (.tbl (setPath p
      (match t.get? (String.ofList k) with
       | some (.tbl i) => i
       | _ => .nil) v))

/-- Every proper prefix of the path is absent from `t` or a map (otherwise Go's type assertion
panics, is recovered, and the parse fails). -/
def compat : List Str → Tbl → Prop
  | [], _ => True
  | [_], _ => True
  | k :: p, t =>
    match t.get? (String.ofList k) with
    | none => True
    | some (.tbl i) => compat p i
    | some _ => False

/-- `k1.k2.….kn=v` with the documented escaping. -/
def pathExpr : List Str → Str → Str
  | [], v => '=' :: escape v
  | [k], v => escape k ++ '=' :: escape v
  | k :: p, v => escape k ++ '.' :: pathExpr p v

/-- The map under key `k`, empty if there is none: what `setPath` and the parser descend into. -/
def child (t : Tbl) (k : String) : Tbl :=
  match t.get? k with
  | some (.tbl i) => i
  | _ => .nil

theorem setPath_cons_cons (k k' : Str) (p : List Str) (t : Tbl) (v : Val) :
    setPath (k :: k' :: p) t v =
      t.set (String.ofList k) (.tbl (setPath (k' :: p) (child t (String.ofList k)) v)) := rfl

theorem setPath_cons (k : Str) (p : List Str) (t : Tbl) (v : Val) :
    ∃ w, setPath (k :: p) t v = t.set (String.ofList k) w := by
  cases p with
  | nil => exact ⟨v, rfl⟩
  | cons k' p' => exact ⟨_, rfl⟩

theorem child_set (t : Tbl) (k : String) (i : Tbl) : child (t.set k (.tbl i)) k = i := by
  rw [child, Tbl.get?_set_same]

theorem compat_nil (p : List Str) : compat p .nil := by
  cases p with
  | nil => trivial
  | cons k p => cases p <;> trivial

/-- Under `compat` the parser's type assertion at the first key succeeds, with the `child` map,
and the rest of the path is compatible with that map. -/
theorem compat_child (k k' : Str) (p : List Str) (t : Tbl) (hc : compat (k :: k' :: p) t) :
    (match t.get? (String.ofList k) with
      | none => some Tbl.nil
      | some (.tbl i) => some i
      | some _ => none) = some (child t (String.ofList k)) ∧
    compat (k' :: p) (child t (String.ofList k)) := by
  simp only [compat] at hc
  unfold child
  cases hg : t.get? (String.ofList k) with
  | none => exact ⟨rfl, compat_nil _⟩
  | some w =>
    rw [hg] at hc
    cases w with
    | tbl i => exact ⟨rfl, hc⟩
    | _ => exact hc.elim

theorem set_isEmpty (t : Tbl) (k : String) (v : Val) : (t.set k v).isEmpty = false := by
  cases t with
  | nil => rfl
  | cons k' w r =>
    rw [Tbl.set]
    split <;> rfl

theorem setPath_isEmpty (ks : List Str) (hk : ks ≠ []) (t : Tbl) (v : Val) :
    (setPath ks t v).isEmpty = false := by
  cases ks with
  | nil => exact absurd rfl hk
  | cons k p =>
    obtain ⟨w, hw⟩ := setPath_cons k p t v
    rw [hw]
    exact set_isEmpty _ _ _

theorem keyStop_special (m : Mode) (x : Char) (h : keyStop m x = true) : special x = true := by
  cases m <;> simp only [keyStop, Bool.or_eq_true, decide_eq_true_eq] at h <;>
    simp only [special, Bool.or_eq_true, decide_eq_true_eq] <;> grind

theorem keyStop_bs (m : Mode) : keyStop m '\\' = false := by
  cases m <;> rfl

theorem reader_nil (m : Mode) (hm : m = .typed ∨ m = .string) : reader m [] = .str "" := by
  rcases hm with rfl | rfl <;> rfl

theorem head_escape_ne_brace (c : Char) (v : Str) :
    ∃ x r, escape (c :: v) = x :: r ∧ x ≠ '{' := by
  rw [escape_cons]
  by_cases hx : special c = true
  · exact ⟨'\\', c :: escape v, by rw [if_pos hx]; rfl, by decide⟩
  · refine ⟨c, escape v, by rw [if_neg hx]; rfl, ?_⟩
    intro h
    subst h
    exact hx (by decide)

theorem rhs_escape (m : Mode) (hm : m = .typed ∨ m = .string) (v : Str) :
    rhs m (escape v) = (some (reader m v), (if v = [] then some E.eof else none), []) := by
  cases v with
  | nil =>
    rw [reader_nil m hm]
    rcases hm with rfl | rfl <;> rfl
  | cons c v' =>
    obtain ⟨x, r, hx, hne⟩ := head_escape_ne_brace c v'
    have hvl : valList m (escape (c :: v')) = ⟨.nil, none, true, escape (c :: v')⟩ := by
      rw [hx]
      unfold valList
      split
      · rename_i h
        cases h
      · rename_i h
        cases h
        exact absurd rfl hne
      · rfl
    have hru := runesUntil_escape_eof (fun c => decide (c = ','))
      (by intro x h; rw [of_decide_eq_true h]; decide) (by decide) (c :: v')
    rcases hm with rfl | rfl <;> simp [rhs, hvl, hru]

/-- Unfolding of `key` when the key segment ends at a dot. -/
theorem key_dot (m : Mode) (n : Nat) (data : Tbl) (level : Nat) (s k rest : Str)
    (h : runesUntil (esc m) (keyStop m) s [] = (k, some '.', rest))
    (hl : ¬ level + 1 > Helm.Gen.maxNestedNameLevel) :
    key m (n + 1) data level s =
      match (match data.get? (String.ofList k) with
              | none => some Tbl.nil
              | some (.tbl t) => some t
              | some _ => none) with
      | none => ⟨data, some .err, rest⟩
      | some inner =>
        let r := key m n inner (level + 1) rest
        if r.err.isNone && r.data.isEmpty then ⟨data, some .err, r.rest⟩
        else if !r.data.isEmpty then ⟨set data k (.tbl r.data), r.err, r.rest⟩
        else ⟨data, r.err, r.rest⟩ := by
  rw [key, h]
  simp only [hl, if_false]
  split
  all_goals (try (rename_i heq; simp at heq; done))
  rename_i heq
  cases heq
  rfl

theorem key_path (m : Mode) (hm : m = .typed ∨ m = .string) (v : Str) (ks : List Str)
    (fuel : Nat) (data : Tbl) (level : Nat) (hks : ks ≠ []) (hne : ∀ k ∈ ks, k ≠ [])
    (hfuel : ks.length ≤ fuel) (hlevel : level + ks.length ≤ Helm.Gen.maxNestedNameLevel + 1)
    (hcompat : compat ks data) :
    key m fuel data level (pathExpr ks v) =
      ⟨setPath ks data (reader m v), (if v = [] then some E.eof else none), []⟩ := by
  have hesc : esc m = true := by rcases hm with rfl | rfl <;> rfl
  have hru : ∀ (k : Str) (c : Char) (rest : Str), keyStop m c = true →
      runesUntil (esc m) (keyStop m) (escape k ++ c :: rest) [] = (k, some c, rest) := fun k c rest hc => by
    rw [hesc, runesUntil_escape_stop (keyStop m) (keyStop_special m) (keyStop_bs m) k c rest hc]
  induction ks generalizing fuel data level with
  | nil => exact absurd rfl hks
  | cons k p ih =>
    have hk : k ≠ [] := hne k List.mem_cons_self
    cases fuel with
    | zero => simp at hfuel
    | succ n =>
      cases p with
      | nil =>
        rw [pathExpr, key, hru k '=' _ (by rcases hm with rfl | rfl <;> rfl)]
        simp [rhs_escape m hm v, set, setPath, hk]
      | cons k' p' =>
        rw [List.length_cons] at hfuel hlevel
        have hpos : 0 < (k' :: p').length := Nat.succ_pos _
        obtain ⟨hinner, hc⟩ := compat_child k k' p' data hcompat
        simp only [pathExpr]
        rw [key_dot m n data level _ k _ (hru k '.' _ (by rcases hm with rfl | rfl <;> rfl))
          (by omega), hinner]
        have hrec := ih n (child data (String.ofList k)) (level + 1) (List.cons_ne_nil _ _)
          (fun x hx => hne x (List.mem_cons_of_mem _ hx)) (by omega) (by omega) hc
        have hne' := setPath_isEmpty (k' :: p') (List.cons_ne_nil _ _)
          (child data (String.ofList k)) (reader m v)
        simp only [hrec, hne', Bool.and_false, Bool.false_eq_true, if_false, Bool.not_false, if_true]
        simp [set, hk, setPath_cons_cons]

theorem pathExpr_length (ks : List Str) (v : Str) : ks.length ≤ (pathExpr ks v).length := by
  induction ks with
  | nil => exact Nat.zero_le _
  | cons k p ih =>
    cases p with
    | nil => simp [pathExpr]; omega
    | cons k' p' => simp only [pathExpr, List.length_append, List.length_cons] at ih ⊢; omega

theorem key_eof (m : Mode) (n : Nat) (data : Tbl) (level : Nat) :
    key m (n + 1) data level [] = ⟨data, some .eof, []⟩ := by
  rw [key, ru_nil]; rfl

/-! ### what `setPath` does and does not touch -/

def lookupStr (t : Tbl) (p : List Str) : Option Val := lookupPath t (p.map String.ofList)

theorem lookupPath_nil (p : List String) : lookupPath .nil p = none := by
  cases p with
  | nil => rfl
  | cons k p => cases p <;> rfl

theorem lookupPath_child (t : Tbl) (k : String) {p : List String} (hp : p ≠ []) :
    lookupPath t (k :: p) = lookupPath (child t k) p := by
  rw [lookupPath_cons t k hp, child]
  cases t.get? k with
  | none => exact (lookupPath_nil p).symm
  | some w => cases w <;> first | rfl | exact (lookupPath_nil p).symm

theorem lookupPath_set_other (t : Tbl) (k x : String) (w : Val) (q : List String) (h : k ≠ x) :
    lookupPath (t.set k w) (x :: q) = lookupPath t (x :: q) := by
  cases q with
  | nil => exact Tbl.get?_set_other t k x w h
  | cons y q =>
    rw [lookupPath_cons _ x (List.cons_ne_nil y q), lookupPath_cons _ x (List.cons_ne_nil y q),
      Tbl.get?_set_other t k x w h]

/-- Two paths part ways at some position (neither is a prefix of the other). -/
def diverge : List Str → List Str → Prop
  | k :: ks, x :: q => k ≠ x ∨ (k = x ∧ diverge ks q)
  | _, _ => False

end Helm.Strvals
