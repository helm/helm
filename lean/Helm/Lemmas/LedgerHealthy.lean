/-
Healthy storage: a storage wrapper with no scripted decision left (`decs = []`), so that every
write goes through when the driver allows it.  On such a state each primitive, hook phase and
loop of the action programs is a function of the ledger alone; the lemmas say which, in the form
`∃ s', step s = (outcome, s') ∧ Healthy s' l'` that lets a proof walk a program call by call.
-/
import Helm.Lemmas.Ledger
namespace Helm.Ledger

/-- every deployed record marked superseded -/
def supersedeDeployed (l : Ledger) : Ledger :=
  l.map fun x => if x.status = .deployed then { x with status := .superseded } else x

theorem supersedeDeployed_append_pending (l : Ledger) {r : Rec} (hr : r.status ≠ .deployed) :
    supersedeDeployed (l ++ [r]) = supersedeDeployed l ++ [r] := by
  simp [supersedeDeployed, hr]

theorem revs_supersedeDeployed (l : Ledger) : revs (supersedeDeployed l) = revs l :=
  revs_map fun x => by split <;> rfl

/-- the records whose revision is in `rs` marked superseded -/
def supersedeRevs (rs : List Nat) (l : Ledger) : Ledger :=
  l.map fun x => if rs.contains x.rev then { x with status := .superseded } else x

theorem supersedeRevs_cons (r : Nat) (rs : List Nat) (l : Ledger) :
    supersedeRevs rs (setStatus l r .superseded) = supersedeRevs (r :: rs) l := by
  simp only [supersedeRevs, setStatus, List.map_map]
  apply List.map_congr_left
  intro x _
  simp only [Function.comp]
  by_cases h : x.rev = r <;> simp [h]

theorem supersedeRevs_deployed {l : Ledger} (hnd : (revs l).Nodup) :
    supersedeRevs ((l.filter (·.status = .deployed)).map (·.rev)) l = supersedeDeployed l := by
  apply List.map_congr_left
  intro x hx
  have : ((l.filter (·.status = .deployed)).map (·.rev)).contains x.rev = decide (x.status = .deployed) := by
    rw [Bool.eq_iff_iff]
    simp only [List.contains_iff_mem, List.mem_map, List.mem_filter, decide_eq_true_eq]
    constructor
    · rintro ⟨y, ⟨hy, hyd⟩, hyr⟩
      rwa [← eq_of_rev hnd hy hx hyr]
    · exact fun h => ⟨x, ⟨hx, h⟩, rfl⟩
  rw [this]
  simp

structure Healthy (s : St) (l : Ledger) : Prop where
  ledger : s.ledger = l
  decs : s.decs = []

namespace Healthy
variable {s : St} {l : Ledger}

/-- an operation starts with the fault plan's storage decisions; with none it is healthy -/
theorem init (l : Ledger) : Healthy { ledger := l, decs := [] } l := ⟨rfl, rfl⟩

theorem create (H : Healthy s l) {r : Rec} (hr : r.rev ∉ revs l) :
    ∃ s', stCreate s r = (.ok, s') ∧ Healthy s' (l ++ [r]) := by
  obtain ⟨rfl, hd⟩ := H
  have : (get? s.ledger r.rev).isSome = false := by
    rw [Bool.eq_false_iff, ne_eq, get?_isSome_iff]; exact hr
  refine ⟨(stCreate s r).2, ?_, ?_, ?_⟩ <;> simp [stCreate, nextDec, hd, this]

theorem update (H : Healthy s l) {r : Rec} (hr : r.rev ∈ revs l) :
    ∃ s', stUpdate s r = (.ok, s') ∧ Healthy s' (put l r) := by
  obtain ⟨rfl, hd⟩ := H
  have : (get? s.ledger r.rev).isSome = true := (get?_isSome_iff _ _).mpr hr
  refine ⟨(stUpdate s r).2, ?_, ?_, ?_⟩ <;> simp [stUpdate, nextDec, hd, this, put]

theorem delete (H : Healthy s l) {rev : Nat} (hr : rev ∈ revs l) :
    ∃ s', stDelete s rev = (.ok, s') ∧ Healthy s' (l.filter (·.rev ≠ rev)) := by
  obtain ⟨rfl, hd⟩ := H
  have : (get? s.ledger rev).isSome = true := (get?_isSome_iff _ _).mpr hr
  refine ⟨(stDelete s rev).2, ?_, ?_, ?_⟩ <;> simp [stDelete, nextDec, hd, this]

/-- rewriting the newest record, appended last -/
theorem update_last {x r : Rec} (H : Healthy s (l ++ [x])) (hx : x.rev ∉ revs l) (hr : r.rev = x.rev) :
    ∃ s', stUpdate s r = (.ok, s') ∧ Healthy s' (l ++ [r]) := by
  obtain ⟨s', e, H'⟩ := H.update (r := r) (by simp [revs, hr])
  rw [put_last hx hr] at H'
  exact ⟨s', e, H'⟩

/-- `execHook` re-records the release before each hook: after the first hook the stored record is
`r`; the phase ends with the decision of the last hook -/
theorem hooks (H : Healthy s l) (r : Rec) (hr : r.rev ∈ revs l) (n : Nat) (d : Dec) :
    ∃ s', hookPhase s r n d = (if n = 0 then .ok else d, s') ∧ Healthy s' (if n = 0 then l else put l r) := by
  induction n generalizing s l with
  | zero => exact ⟨s, rfl, H⟩
  | succ k ih =>
    obtain ⟨s1, e1, H1⟩ := H.update hr
    rw [hookPhase, e1]
    by_cases hk : k = 0
    · exact ⟨s1, by simp [hk], by simpa using H1⟩
    · obtain ⟨s2, e2, H2⟩ := ih H1 (by rw [revs_put]; exact hr)
      refine ⟨s2, by simp [hk, e2], ?_⟩
      simpa [hk, put_put] using H2

/-- ... and whatever it rewrites, the stored revisions are the same -/
theorem hooks_revs (H : Healthy s l) (r : Rec) (hr : r.rev ∈ revs l) (n : Nat) (d : Dec) :
    ∃ s' l', hookPhase s r n d = (if n = 0 then .ok else d, s') ∧ Healthy s' l' ∧ revs l' = revs l := by
  obtain ⟨s', e, H'⟩ := H.hooks r hr n d
  refine ⟨s', _, e, H', ?_⟩
  split
  · rfl
  · exact revs_put l r

/-- hooks of the release whose record was appended last: the ledger does not move -/
theorem hooks_last {r : Rec} (H : Healthy s (l ++ [r])) (hr : r.rev ∉ revs l) (n : Nat) (d : Dec) :
    ∃ s', hookPhase s r n d = (if n = 0 then .ok else d, s') ∧ Healthy s' (l ++ [r]) := by
  obtain ⟨s', e, H'⟩ := H.hooks r (by simp [revs]) n d
  rw [put_last hr rfl, ite_self] at H'
  exact ⟨s', e, H'⟩

/-- `purgeReleases` removes every listed revision -/
theorem purgeList : ∀ (rs : List Nat) {s : St} {l : Ledger}, Healthy s l → rs.Nodup → (∀ r ∈ rs, r ∈ revs l) →
    ∃ s', purge rs s = (.ok, s') ∧ Healthy s' (l.filter fun x => !rs.contains x.rev)
  | [], s, l, H, _, _ => ⟨s, rfl, by rwa [List.filter_eq_self.mpr (fun _ _ => by simp)]⟩
  | r :: rest, s, l, H, hnd, hsub => by
    rw [List.nodup_cons] at hnd
    obtain ⟨s1, e1, H1⟩ := H.delete (hsub r List.mem_cons_self)
    have hsub1 : ∀ r' ∈ rest, r' ∈ revs (l.filter (·.rev ≠ r)) := by
      intro r' hr'
      obtain ⟨x, hx, hxr⟩ := List.mem_map.mp (hsub r' (List.mem_cons_of_mem _ hr'))
      have : r' ≠ r := fun h => hnd.1 (h ▸ hr')
      exact List.mem_map.mpr ⟨x, List.mem_filter.mpr ⟨hx, by simp [hxr, this]⟩, hxr⟩
    obtain ⟨s2, e2, H2⟩ := purgeList rest H1 hnd.2 hsub1
    refine ⟨s2, by rw [purge, e1]; exact e2, ?_⟩
    rw [List.filter_filter] at H2
    have : (l.filter fun x => !(r :: rest).contains x.rev) =
        l.filter fun x => (!rest.contains x.rev) && decide (x.rev ≠ r) := by
      apply List.filter_congr
      intro x _
      by_cases h : x.rev = r <;> simp [h]
    rw [this]
    exact H2

/-- ... in particular all of them, whatever order `revsAsc` lists them in -/
theorem purgeAll (H : Healthy s l) (hnd : (revs l).Nodup) :
    ∃ s', purge (revsAsc s.ledger) s = (.ok, s') ∧ Healthy s' [] := by
  obtain ⟨s', e, H'⟩ := purgeList (revsAsc l) H ((sortAsc_perm _).nodup_iff.mpr hnd) (fun r hr => (mem_revsAsc l r).mp hr)
  have : (l.filter fun x => !(revsAsc l).contains x.rev) = [] := by
    apply List.filter_eq_nil_iff.mpr
    intro x hx
    simp [(mem_revsAsc l x.rev).mpr (mem_revs hx)]
  rw [this] at H'
  exact ⟨s', by rw [H.ledger]; exact e, H'⟩

/-- the loop of performRollback that marks the deployed revisions superseded -/
theorem supersedeList : ∀ (rs : List Nat) {s : St} {l : Ledger}, Healthy s l → (revs l).Nodup →
    (∀ r ∈ rs, r ∈ revs l) →
    ∃ s', rollbackOn.supersedeAll rs s = (.ok, s') ∧ Healthy s' (supersedeRevs rs l)
  | [], s, l, H, _, _ => ⟨s, rfl, by simpa [supersedeRevs] using H⟩
  | r :: rest, s, l, H, hnd, hsub => by
    have hr := hsub r List.mem_cons_self
    obtain ⟨x, hx, rfl⟩ := List.mem_map.mp hr
    obtain ⟨s1, e1, H1⟩ := H.update (r := { x with status := .superseded }) hr
    rw [put_status hnd hx] at H1
    obtain ⟨s2, e2, H2⟩ := supersedeList rest H1 (by rw [revs_setStatus]; exact hnd)
      (fun r' hr' => by rw [revs_setStatus]; exact hsub r' (List.mem_cons_of_mem _ hr'))
    refine ⟨s2, ?_, ?_⟩
    · rw [rollbackOn.supersedeAll, H.ledger, get?_of_mem_nodup hnd hx]
      simp only [e1]
      exact e2
    · rw [supersedeRevs_cons] at H2
      exact H2

theorem supersede (H : Healthy s l) (hnd : (revs l).Nodup) :
    ∃ s', rollbackOn.supersedeAll ((s.ledger.filter (·.status = .deployed)).map (·.rev)) s = (.ok, s') ∧
      Healthy s' (supersedeDeployed l) := by
  rw [H.ledger, ← supersedeRevs_deployed hnd]
  exact supersedeList _ H hnd (fun r hr => by
    obtain ⟨x, hx, rfl⟩ := List.mem_map.mp hr
    exact mem_revs (List.mem_filter.mp hx).1)

end Healthy
end Helm.Ledger
