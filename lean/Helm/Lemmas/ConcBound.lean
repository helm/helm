/-
Termination in the interleaving model: an operation returns within six of its own steps,
whatever the others do in between.  Together with the two invariants this turns the Boolean
post-condition `quiescentOk` into a theorem about every schedule that gives each process six
steps, of which the model's schedule enumerations are instances.
-/
import Helm.Lemmas.Conc
import Helm.Lemmas.ConcQ

namespace Helm.Conc
open Helm.Ledger

/-- an upper bound on the steps a process takes before it has returned: the length of the
longest path (an upgrade over a failed or superseded last revision) from each program point -/
def Pc.stepsLeft : Pc → Nat
  | .start => 6
  | .read _ => 5
  | .ready _ _ => 4
  | .created _ _ => 3
  | .mutated _ _ => 2
  | .superseded _ => 1
  | .done _ => 0

theorem Pc.stepsLeft_le (pc : Pc) : pc.stepsLeft ≤ 6 := by
  cases pc <;> simp [Pc.stepsLeft]

theorem isDone_of_stepsLeft {p : Proc} (h : p.pc.stepsLeft = 0) : p.isDone = true := by
  unfold Proc.isDone
  cases hpc : p.pc <;> simp [hpc, Pc.stepsLeft] at h ⊢

theorem stepProc_stepsLeft (p : Proc) (l : Ledger) :
    (stepProc p l).1.pc.stepsLeft ≤ p.pc.stepsLeft - 1 := by
  unfold stepProc
  cases hpc : p.pc with
  | start =>
    cases p.kind with
    | install => simp only; split <;> simp [Pc.stepsLeft]
    | upgrade =>
      cases last? l with
      | none => simp [Pc.stepsLeft]
      | some r =>
        simp only
        split
        · simp [Pc.stepsLeft]
        · split <;> simp [Pc.stepsLeft]
  | ready b cur => simp only; split <;> simp [Pc.stepsLeft]
  | mutated r cur => cases cur <;> simp [Pc.stepsLeft]
  | done ok => simp [hpc, Pc.stepsLeft]
  | _ => simp [Pc.stepsLeft]

/-- a step of process `j` brings process `j` one step nearer and leaves the others where they are -/
theorem step_stepsLeft (w : World) (j i : Nat) (p' : Proc) (h : (step w j).procs[i]? = some p') :
    ∃ p, w.procs[i]? = some p ∧ p'.pc.stepsLeft ≤ p.pc.stepsLeft - (if j = i then 1 else 0) := by
  unfold step at h
  cases hj : w.procs[j]? with
  | none =>
    rw [hj] at h
    refine ⟨p', h, ?_⟩
    split
    · rename_i hji; rw [hji, h] at hj; cases hj
    · exact Nat.le_refl _
  | some q =>
    rw [hj] at h
    simp only [List.getElem?_set] at h
    split at h
    · rename_i hji
      split at h
      · cases h
        exact ⟨q, hji ▸ hj, by simpa [hji] using stepProc_stepsLeft q w.ledger⟩
      · cases h
    · rename_i hji
      exact ⟨p', h, by simp [hji]⟩

theorem run_stepsLeft (s : List Nat) (i : Nat) : ∀ (w : World) (p' : Proc), (run w s).procs[i]? = some p' →
    ∃ p, w.procs[i]? = some p ∧ p'.pc.stepsLeft ≤ p.pc.stepsLeft - s.count i := by
  induction s with
  | nil => intro w p' h; exact ⟨p', h, Nat.le_refl _⟩
  | cons j rest ih =>
    intro w p' h
    obtain ⟨p1, h1, hle1⟩ := ih (step w j) p' h
    obtain ⟨p, hp, hle⟩ := step_stepsLeft w j i p1 h1
    refine ⟨p, hp, ?_⟩
    rw [List.count_cons]
    simp only [beq_iff_eq]
    split at hle <;> split <;> omega

/-- Whatever the others do in between, an operation has returned once it has taken six steps. -/
theorem done_after_six_steps (w : World) (s : List Nat) (h : ∀ i < w.procs.length, 6 ≤ s.count i) :
    ∀ p ∈ (run w s).procs, p.isDone = true := by
  intro p' hp'
  obtain ⟨i, hi⟩ := List.mem_iff_getElem?.mp hp'
  obtain ⟨p, hp, hle⟩ := run_stepsLeft s i w p' hi
  have hlt : i < w.procs.length := (List.getElem?_eq_some_iff.mp hp).1
  have := h i hlt
  have := p.pc.stepsLeft_le
  exact isDone_of_stepsLeft (by omega)

/-! ### the schedule enumeration of the model -/

theorem count_of_mem_pick : ∀ (n a b : Nat) (s : List Nat), a + b = n → s ∈ pick n a b →
    s.count 0 = a ∧ s.count 1 = b := by
  intro n
  induction n with
  | zero =>
    intro a b s hab hs
    simp only [pick, List.mem_singleton] at hs
    subst hs
    simp; omega
  | succ n ih =>
    intro a b s hab hs
    simp only [pick, List.mem_append] at hs
    rcases hs with hs | hs
    · split at hs
      · obtain ⟨t, ht, rfl⟩ := List.mem_map.mp hs
        obtain ⟨h0, h1⟩ := ih (a - 1) b t (by omega) ht
        simp [h0, h1]; omega
      · cases hs
    · split at hs
      · obtain ⟨t, ht, rfl⟩ := List.mem_map.mp hs
        obtain ⟨h0, h1⟩ := ih a (b - 1) t (by omega) ht
        simp [h0, h1]; omega
      · cases hs

/-- an interleaving of `a` steps of process 0 and `b` of process 1 is that -/
theorem count_of_mem_interleavings {a b : Nat} {s : List Nat} (hs : s ∈ interleavings a b) :
    s.count 0 = a ∧ s.count 1 = b :=
  count_of_mem_pick (a + b) a b s rfl hs

/-- a schedule that ends `r⁶ q⁶ p⁶` lets each of the three run to its end -/
theorem six_steps_each (a b p q r i : Nat) (hi : i = p ∨ i = q ∨ i = r) :
    6 ≤ (List.replicate a p ++ List.replicate b q ++ List.replicate 6 r ++ List.replicate 6 q ++
      List.replicate 6 p).count i := by
  simp only [List.count_append, List.count_replicate]
  rcases hi with rfl | rfl | rfl <;> simp <;> omega

/-! ### the Boolean post-condition of the model is what the invariants give -/

theorem nodup_iff (l : List Nat) : nodup l = true ↔ l.Nodup := by
  induction l with
  | nil => simp [nodup]
  | cons x r ih => simp [nodup, ih]

theorem deployedCount_eq (l : Ledger) : deployedCount l = countDeployed l :=
  List.countP_eq_length_filter.symm

theorem wellFormed_iff (l : Ledger) : wellFormed l = true ↔
    (Helm.Ledger.revs l).Nodup ∧ countDeployed l ≤ 1 ∧ ∀ r ∈ l, r.status.isPending = false := by
  simp only [wellFormed, Bool.and_eq_true, nodup_iff, deployedCount_eq, decide_eq_true_eq, List.all_eq_true,
    Bool.not_eq_true', and_assoc]
  rfl

/-- ANY number of fresh operations over ANY well-formed history, ANY schedule that gives each of
them at least six steps: every operation has returned, the history is well-formed, every revision
has one creator, every winner stored its record and every loser touched nothing. -/
theorem returned_and_quiescentOk (l : Ledger) (ps : List Proc) (s : List Nat) (hl : WF0 l)
    (hf : ∀ p ∈ ps, p.pc = .start ∧ p.made = none ∧ p.touched = false)
    (hs : ∀ i < ps.length, 6 ≤ s.count i) :
    ((run ⟨l, ps⟩ s).procs.all (·.isDone) && quiescentOk (run ⟨l, ps⟩ s)) = true := by
  have hdone := done_after_six_steps ⟨l, ps⟩ s hs
  have hwf := quiescence_wellformed l ps s hl (fun p hp => (hf p hp).1) hdone
  obtain ⟨hok, hmade⟩ := run_inv ⟨l, ps⟩ s (init_inv l ps hf)
  simp only [quiescentOk, Bool.and_eq_true, List.all_eq_true, wellFormed_iff, nodup_iff]
  refine ⟨hdone, ⟨hwf, hmade⟩, ?_⟩
  intro p hp
  have h3 := (hok p hp).2.2
  split
  · rename_i hpc; rw [hpc] at h3; exact h3
  · rename_i hpc; rw [hpc] at h3; simp [h3.1, h3.2]
  · rfl

end Helm.Conc
