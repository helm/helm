import Helm.Model.Barrier
namespace Helm.Barrier

/-- What an enabled spawn does: the next task runs, under the current kind; the earlier ones are
still running only if the kind stays. -/
theorem step_spawn {ks : List String} {s s' : BState} (h : step ks s .spawn = some s') :
    s'.next = s.next + 1 ∧ s'.finished = s.finished ∧ ks[s.next]? = some s'.cur ∧ s.next ∈ s'.running ∧
      ((s'.cur = s.cur ∧ ∀ j ∈ s.running, j ∈ s'.running) ∨ s.running = []) := by
  simp only [step] at h
  cases hk : ks[s.next]? with
  | none => simp [hk] at h
  | some k =>
    simp only [hk] at h
    split at h
    · rename_i hkc
      cases h
      exact ⟨rfl, rfl, by rw [hkc], by simp, .inl ⟨rfl, fun j hj => List.mem_cons_of_mem _ hj⟩⟩
    · split at h
      · rename_i hemp
        cases h
        exact ⟨rfl, rfl, rfl, by simp, .inr (by simpa using hemp)⟩
      · simp at h

/-- Invariant of `batchPerform`: every task spawned so far has finished, or is running and has
the current kind. -/
def BInv (ks : List String) (s : BState) : Prop :=
  ∀ j, j < s.next → j ∈ s.finished ∨ (j ∈ s.running ∧ ks[j]? = some s.cur)

theorem spawn_safe (ks : List String) (s s' : BState) (hinv : BInv ks s)
    (hs : step ks s .spawn = some s') :
    ∀ j, j < s.next → ks[j]? ≠ ks[s.next]? → j ∈ s.finished := by
  intro j hj hne
  obtain ⟨_, _, hk, _, hrun⟩ := step_spawn hs
  rcases hinv j hj with h | ⟨h1, h2⟩
  · exact h
  · rcases hrun with ⟨hc, _⟩ | hnil
    · exact absurd (h2.trans (hc ▸ hk.symm)) hne
    · rw [hnil] at h1
      cases h1

end Helm.Barrier
