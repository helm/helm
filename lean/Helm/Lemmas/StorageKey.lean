/-
The keys storage.go makes (`makeKey name version`) meet the guard of the memory driver's
refinement theorem whenever the release name contains no ".v" (lemmas for C10).
-/
import Helm.Model.Storage
namespace Helm.Storage

/-- a name without ".v", then ".v", then digits: exactly one ".v", the digits after it, the
name before it.  Along the name the three scans take their second equation: a step that does
not start with ".v" in the name does not start with it in the whole key either. -/
theorem key_parts (nm ds : List Char) (hn : countDotV nm = 0) (hd : countDotV ds = 0) :
    countDotV (nm ++ '.' :: 'v' :: ds) = 1 ∧ afterDotV (nm ++ '.' :: 'v' :: ds) = ds ∧
    beforeDotV (nm ++ '.' :: 'v' :: ds) = nm := by
  induction nm using countDotV.induct with
  | case1 r _ => simp [countDotV] at hn
  | case2 c r hc ih =>
    rw [countDotV.eq_2 c r hc] at hn
    have hc' : ∀ r', c = '.' → r ++ '.' :: 'v' :: ds = 'v' :: r' → False := by
      intro r' h1 h2
      cases r with
      | nil => simp at h2
      | cons d r'' => exact hc r'' h1 (by rw [(List.cons.inj h2).1])
    obtain ⟨i1, i2, i3⟩ := ih hn
    rw [List.cons_append, countDotV.eq_2 c _ hc', afterDotV.eq_2 c _ hc', beforeDotV.eq_2 c _ hc', i3]
    exact ⟨i1, i2, rfl⟩
  | case3 => simp [countDotV, afterDotV, beforeDotV, hd]

theorem countDotV_digits (ds : List Char) (h : ∀ c ∈ ds, c.isDigit = true) : countDotV ds = 0 := by
  induction ds with
  | nil => rfl
  | cons c r ih =>
    rw [countDotV.eq_2 c r, ih fun x hx => h x (List.mem_cons_of_mem _ hx)]
    rintro _ rfl -
    exact absurd (h '.' List.mem_cons_self) (by decide)

theorem isInt_digits (ds : List Char) (hne : ds ≠ []) (h : ∀ c ∈ ds, c.isDigit = true) :
    isInt ds = true := by
  rw [isInt.eq_3]
  · simpa [hne] using h
  · rintro r rfl
    exact absurd (h '-' List.mem_cons_self) (by decide)
  · rintro r rfl
    exact absurd (h '+' List.mem_cons_self) (by decide)

theorem stripPrefix_append (p x : List Char) : stripPrefix p (p ++ x) = x := by
  have : p.isPrefixOf (p ++ x) = true := List.isPrefixOf_iff_prefix.mpr (List.prefix_append p x)
  simp [stripPrefix, this]

theorem makeKey_ok (name : String) (version : Nat) (h : countDotV name.toList = 0) :
    memKeyOk (makeKey name version) = true ∧ memKeyName (makeKey name version) = name := by
  have hds : ∀ c ∈ Nat.toDigits 10 version, c.isDigit = true :=
    fun c hc => Nat.isDigit_of_mem_toDigits (by decide) (by decide) hc
  have hkey : (makeKey name version).toList =
      "sh.helm.release.v1.".toList ++ (name.toList ++ '.' :: 'v' :: Nat.toDigits 10 version) := by
    have h1 : makeKey name version = "sh.helm.release.v1." ++ name ++ ".v" ++ version.repr := rfl
    have h2 : ".v".toList = ['.', 'v'] := by decide
    rw [h1]
    simp only [String.toList_append, Nat.toList_repr, h2, List.append_assoc, List.cons_append, List.nil_append]
  obtain ⟨k1, k2, k3⟩ := key_parts name.toList (Nat.toDigits 10 version) h (countDotV_digits _ hds)
  constructor
  · simp only [memKeyOk, hkey, stripPrefix_append, k1, k2, isInt_digits _ Nat.toDigits_ne_nil hds]
    rfl
  · simp only [memKeyName, hkey, stripPrefix_append, k3, String.ofList_toList]

end Helm.Storage
