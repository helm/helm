import Helm.Model.Recursion

namespace Helm.Recursion

/-- The calls of one body in sequence return what came in, or a trace, or the answer of one of the calls. -/
theorem foldl_seqStep (f : Nat → Res) (l : List Nat) (acc : Res) :
    l.foldl (seqStep f) acc = acc ∨ (∃ t, l.foldl (seqStep f) acc = .ok t) ∨
      ∃ n ∈ l, l.foldl (seqStep f) acc = f n := by
  induction l generalizing acc with
  | nil => exact .inl rfl
  | cons n r ih =>
    rw [List.foldl_cons]
    rcases ih (seqStep f acc n) with h | h | ⟨m, hm, h⟩
    · rw [h]
      cases acc with
      | ok t =>
        cases hf : f n with
        | ok t' => exact .inr (.inl ⟨t ++ t', by simp [seqStep, hf]⟩)
        | _ => exact .inr (.inr ⟨n, List.mem_cons_self, by simp [seqStep, hf]⟩)
      | _ => exact .inl rfl
    · exact .inr (.inl h)
    · exact .inr (.inr ⟨m, List.mem_cons_of_mem _ hm, h⟩)

theorem slack_bump (max : Nat) (cnt : Nat → Nat) (c K : Nat) (hle : cnt c ≤ max) :
    slack max (bump cnt c) K + (if c < K then 1 else 0) = slack max cnt K := by
  induction K with
  | zero => rfl
  | succ k ih =>
    simp only [slack, bump]
    rcases Nat.lt_trichotomy c k with h | h | h
    · rw [if_pos h] at ih
      rw [if_neg (by omega), if_pos (by omega)]
      omega
    · subst h
      rw [if_neg (Nat.lt_irrefl c)] at ih
      rw [if_pos rfl, if_pos (Nat.lt_succ_self c)]
      omega
    · rw [if_neg (by omega)] at ih
      rw [if_neg (by omega), if_neg (by omega)]
      omega

theorem slack_zero (max K : Nat) : slack max (fun _ => 0) K = K * (max + 1) := by
  induction K with
  | zero => simp [slack]
  | succ k ih => simp only [slack, ih, Nat.succ_mul]; omega

/-- with shared counters over finitely many counter names, a call never needs more stack
than the slack the counters have left -/
theorem call_not_fatal (p : Prog) (hs : p.shared = true) (K : Nat) (hK : ∀ n, p.ctr n < K) :
    ∀ (fuel : Nat) (cnt : Nat → Nat) (node : Nat), slack p.max cnt K < fuel → call p fuel cnt node ≠ .fatal := by
  intro fuel
  induction fuel with
  | zero => intro cnt node h; omega
  | succ f ih =>
    intro cnt node h
    simp only [call]
    by_cases hg : cnt (p.ctr node) > p.max
    · simp [hg]
    · simp only [hg, if_false, hs, Bool.not_true, Bool.and_false, Bool.false_eq_true]
      rcases foldl_seqStep (call p f (bump cnt (p.ctr node))) (p.body node) (.ok [node]) with h | ⟨t, h⟩ | ⟨n, _, h⟩
      · simp [h]
      · simp [h]
      · rw [h]
        apply ih
        have := slack_bump p.max cnt (p.ctr node) K (by omega)
        simp only [hK node, if_true] at this
        omega

/-- a chart whose calls are well-founded and at most `max` deep is rendered, never refused -/
theorem call_ok_of_rank (p : Prog) (rank : Nat → Nat) (hr : ∀ n, ∀ m ∈ p.body n, rank m < rank n) :
    ∀ (fuel : Nat) (cnt : Nat → Nat) (node : Nat), (∀ c, cnt c + rank node ≤ p.max) → rank node < fuel →
      ∃ t, call p fuel cnt node = .ok t := by
  intro fuel
  induction fuel with
  | zero => intro cnt node _ h; omega
  | succ f ih =>
    intro cnt node hc hf
    simp only [call]
    have hg : ¬ cnt (p.ctr node) > p.max := by have := hc (p.ctr node); omega
    simp only [hg, if_false]
    rcases foldl_seqStep _ (p.body node) (.ok [node]) with h | h | ⟨m, hm, h⟩
    · exact ⟨_, h⟩
    · exact h
    · rw [h]
      have hlt := hr node m hm
      apply ih
      · intro c
        split
        · have := hc c; simp; omega
        · have := hc c
          simp only [bump]
          split <;> omega
      · omega

end Helm.Recursion
