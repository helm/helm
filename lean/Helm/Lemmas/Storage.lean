import Helm.Model.Storage
namespace Helm.Storage

def objOf (r : Rel) : Obj := ⟨objLabels r, some r⟩

/-- the object store holding exactly the spec map's content, as the driver writes it -/
def enc (sp : Spec) : Objs := sp.map fun kv => (kv.1, objOf kv.2)

def sysKeys : List String := ["name", "owner", "status", "version"]

/-- queries the action layer issues: over system labels only -/
def OpOK : Op → Prop
  | .query q => ∀ kv ∈ q, kv.1 ∈ sysKeys
  | _ => True

/-- agreement of outputs; the only tolerated difference: updating a missing key fails with
another error class on the object stores (the API's Update error is passed through). -/
def OutRel (o spec : Out) : Prop := o = spec ∨ (o = .other ∧ spec = .notFound)

/-- output sequences agree position by position -/
def OutsRel : List Out → List Out → Prop
  | [], [] => True
  | a :: as, b :: bs => OutRel a b ∧ OutsRel as bs
  | _, _ => False

/-- Forward simulation along `run`: a relation `R` between the states of two step functions
that every admissible call keeps, answering with outputs related by `O`, is kept by every
admissible sequence of calls, whose outputs are related position by position (`Os`, given by
its rules for nil and cons). -/
theorem run_sim {σ τ : Type} {f : σ → Op → σ × Out} {g : τ → Op → τ × Out} {R : σ → τ → Prop}
    {P : Op → Prop} {O : Out → Out → Prop} {Os : List Out → List Out → Prop}
    (hnil : Os [] []) (hcons : ∀ a b as bs, O a b → Os as bs → Os (a :: as) (b :: bs))
    (hstep : ∀ s t op, R s t → P op → R (f s op).1 (g t op).1 ∧ O (f s op).2 (g t op).2)
    (ops : List Op) : ∀ s t, R s t → (∀ op ∈ ops, P op) →
    R (run f s ops).1 (run g t ops).1 ∧ Os (run f s ops).2 (run g t ops).2 := by
  induction ops with
  | nil => exact fun _ _ h _ => ⟨h, hnil⟩
  | cons op ops ih =>
    intro s t h hok
    obtain ⟨h1, h2⟩ := hstep s t op h (hok op List.mem_cons_self)
    obtain ⟨i1, i2⟩ := ih _ _ h1 fun o ho => hok o (List.mem_cons_of_mem _ ho)
    exact ⟨i1, hcons _ _ _ _ h2 i2⟩

theorem enc_get? (sp : Spec) (k : String) : (enc sp).get? k = (sp.get? k).map objOf := by
  simp only [Objs.get?, Spec.get?, enc, List.find?_map, Option.map_map]
  rfl

theorem enc_filterMap_body (sp : Spec) : (enc sp).filterMap (·.2.body) = sp.map (·.2) := by
  rw [enc, List.filterMap_map]
  exact congrFun (List.filterMap_eq_map (f := fun kv : String × Rel => kv.2)) sp

theorem lookup_append_some (k : String) (a b : List (String × String)) (v : String)
    (h : lookup k a = some v) : lookup k (a ++ b) = some v := by
  induction a with
  | nil => cases h
  | cons x r ih =>
    rw [List.cons_append, lookup]
    rw [lookup] at h
    split
    · rwa [if_pos ‹_›] at h
    · rw [if_neg ‹_›] at h
      exact ih h

theorem lookup_sys (r : Rel) (k : String) (hk : k ∈ sysKeys) :
    ∃ v, lookup k (sysLabels r) = some v ∧ lookup k (objLabels r) = some v := by
  simp only [sysKeys, List.mem_cons, List.not_mem_nil, or_false] at hk
  have : ∃ v, lookup k (sysLabels r) = some v := by
    rcases hk with rfl | rfl | rfl | rfl <;> simp [sysLabels, lookup]
  obtain ⟨v, hv⟩ := this
  exact ⟨v, hv, lookup_append_some k _ _ v hv⟩

theorem owner_helm (r : Rel) : lookup "owner" (objOf r).labels = some "helm" := by
  simp [objOf, objLabels, sysLabels, lookup]

theorem query_match (r : Rel) (q : List (String × String)) (hq : ∀ kv ∈ q, kv.1 ∈ sysKeys) :
    (q.all fun (k, v) => lookup k (objOf r).labels = some v) = matchLabels (sysLabels r) q := by
  unfold matchLabels
  induction q with
  | nil => rfl
  | cons kv rest ih =>
    obtain ⟨k, v⟩ := kv
    simp only [List.all_cons]
    rw [ih (fun x hx => hq x (List.mem_cons_of_mem _ hx))]
    obtain ⟨w, h1, h2⟩ := lookup_sys r k (hq (k, v) List.mem_cons_self)
    simp only [objOf, h1, h2, Option.getD_some, Option.some.injEq]

end Helm.Storage
