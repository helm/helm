import Helm.Model.Index
namespace Helm.Index

theorem geEntry_total (a b : Entry) : (geEntry a b || geEntry b a) = true := by
  simp only [geEntry, Bool.or_eq_true, decide_eq_true_eq]
  exact List.le_total b.key a.key

theorem geEntry_trans (a b c : Entry) : geEntry a b = true → geEntry b c = true → geEntry a c = true := by
  simp only [geEntry, decide_eq_true_eq]
  intro h1 h2
  exact List.le_trans h2 h1

theorem firstMatch_map_some (p : Entry → Bool) (l : List Entry) :
    firstMatch p (l.map some) = .ok (l.find? p) := by
  induction l with
  | nil => rfl
  | cons e rest ih =>
    simp only [List.map_cons, firstMatch, List.find?_cons]
    cases p e <;> simp [ih]

/-- In a list sorted descending, the first element satisfying `p` is a maximum of those satisfying `p`. -/
theorem first_match_is_max (p : Entry → Bool) (l : List Entry)
    (hs : l.Pairwise fun a b => b.key ≤ a.key) (e : Entry) (h : l.find? p = some e) :
    ∀ e' ∈ l, p e' = true → e'.key ≤ e.key := by
  obtain ⟨_, as, bs, rfl, hn⟩ := List.find?_eq_some_iff_append.1 h
  rw [List.pairwise_append, List.pairwise_cons] at hs
  intro e' he' hp'
  rcases List.mem_append.1 he' with ha | hb
  · exact absurd hp' (by simpa using hn e' ha)
  · rcases List.mem_cons.1 hb with rfl | hb
    · exact List.le_refl _
    · exact hs.2.1.1 e' hb

theorem keptEntries_map_some (raw : List Entry) : keptEntries (raw.map some) = raw.filter (·.valid) := by
  unfold keptEntries
  induction raw with
  | nil => rfl
  | cons e rest ih =>
    simp only [List.map_cons, List.filterMap_cons, List.filter_cons]
    cases e.valid <;> simp [ih]

/-- On a list without null entries `Get` is the tag match (when the constraint parses). -/
theorem get_map_some (l : List Entry) (version : String) (ok : Bool) :
    get (l.map some) version ok = if ok then tagMatch l version true else .err := by
  unfold get tagMatch
  cases l with
  | nil => cases ok <;> simp
  | cons x xs =>
    rw [firstMatch_map_some, firstMatch_map_some]
    generalize (x :: xs).find? (fun e => decide (e.version = version)) = a
    generalize (x :: xs).find? (fun e => e.ver.isSome && e.sat) = b
    cases ok with
    | false => simp
    | true => by_cases hv : version = "" <;> cases a <;> cases b <;> simp [hv]

theorem tagMatch_ne_panic (tags : List Entry) (version : String) (ok : Bool) :
    tagMatch tags version ok ≠ .panic := by
  unfold tagMatch
  split
  · simp
  · cases ok <;> simp
    split <;> simp

/-- Without an exact match the tag match is the first entry that parses and satisfies. -/
theorem tagMatch_noexact (tags : List Entry) (version : String) (e : Entry)
    (hnoexact : version.isEmpty = true ∨ tags.find? (fun x => x.version = version) = none)
    (h : tagMatch tags version true = .ok e) :
    tags.find? (fun e => e.ver.isSome && e.sat) = some e := by
  unfold tagMatch at h
  have hex : (if version.isEmpty = true then none else tags.find? fun e => decide (e.version = version)) = none := by
    rcases hnoexact with hv | hv <;> simp [hv]
  rw [hex] at h
  cases hf : tags.find? (fun e => e.ver.isSome && e.sat) with
  | none => simp [hf] at h
  | some e0 => simpa [hf] using h

end Helm.Index
