import Helm.Model.Render
import Helm.Model.Manifest
namespace Helm.Render

/-- Sorting with a total, transitive, antisymmetric order does not depend on the input order. -/
theorem mergeSort_perm_invariant {α} (le : α → α → Bool)
    (htrans : ∀ a b c, le a b = true → le b c = true → le a c = true)
    (htotal : ∀ a b, (le a b || le b a) = true)
    (l₁ l₂ : List α) (hanti : ∀ a b, a ∈ l₁ → b ∈ l₁ → le a b = true → le b a = true → a = b)
    (hp : l₁.Perm l₂) : l₁.mergeSort le = l₂.mergeSort le := by
  have h1 := List.pairwise_mergeSort htrans htotal l₁
  have h2 := List.pairwise_mergeSort htrans htotal l₂
  have hperm : (l₁.mergeSort le).Perm (l₂.mergeSort le) :=
    (List.mergeSort_perm l₁ le).trans (hp.trans (List.mergeSort_perm l₂ le).symm)
  refine List.Perm.eq_of_pairwise ?_ h1 h2 hperm
  intro a b ha hb hab hba
  have ha' : a ∈ l₁ := (List.mergeSort_perm l₁ le).mem_iff.mp ha
  have hb' : b ∈ l₁ := hp.mem_iff.mpr ((List.mergeSort_perm l₂ le).mem_iff.mp hb)
  exact hanti a b ha' hb' hab hba

theorem geTpl_iff (a b : String) :
    geTpl a b = true ↔ countSlash b < countSlash a ∨ (countSlash a = countSlash b ∧ b ≤ a) := by
  simp only [geTpl, lessTpl]
  split <;> simp [*, String.not_lt] <;> omega

theorem geTpl_total (a b : String) : (geTpl a b || geTpl b a) = true := by
  simp only [Bool.or_eq_true, geTpl_iff]
  rcases Nat.lt_trichotomy (countSlash a) (countSlash b) with h | h | h
  · exact .inr (.inl h)
  · exact (String.le_total a b).elim (fun h' => .inr (.inr ⟨h.symm, h'⟩)) (fun h' => .inl (.inr ⟨h, h'⟩))
  · exact .inl (.inl h)

theorem geTpl_trans (a b c : String) : geTpl a b = true → geTpl b c = true → geTpl a c = true := by
  simp only [geTpl_iff]
  rintro (h1 | ⟨h1, h1'⟩) (h2 | ⟨h2, h2'⟩)
  · exact .inl (by omega)
  · exact .inl (by omega)
  · exact .inl (by omega)
  · exact .inr ⟨by omega, String.le_trans h2' h1'⟩

theorem geTpl_antisymm (a b : String) : geTpl a b = true → geTpl b a = true → a = b := by
  simp only [geTpl_iff]
  rintro (h1 | ⟨_, h1⟩) (h2 | ⟨_, h2⟩)
  · omega
  · omega
  · omega
  · exact String.le_antisymm h2 h1

end Helm.Render

namespace Helm.Manifest
open Helm.Render

theorem eq_of_nodup_keys {β} (l : List (String × β)) (hn : (l.map (·.1)).Nodup) (a b : String × β)
    (ha : a ∈ l) (hb : b ∈ l) (h : a.1 = b.1) : a = b := by
  induction l with
  | nil => cases ha
  | cons x r ih =>
    simp only [List.map_cons, List.nodup_cons] at hn
    rcases List.mem_cons.mp ha with rfl | ha' <;> rcases List.mem_cons.mp hb with rfl | hb'
    · rfl
    · exfalso; exact hn.1 (h ▸ List.mem_map_of_mem hb')
    · exfalso; exact hn.1 (h ▸ List.mem_map_of_mem ha')
    · exact ih hn.2 ha' hb'

/-- Among files with distinct paths, sorting by path does not depend on the order they come in. -/
theorem mergeSort_keyLe_perm_invariant (files files' : List (String × Str))
    (hn : (files.map (·.1)).Nodup) (hp : files.Perm files') :
    files.mergeSort keyLe = files'.mergeSort keyLe := by
  refine mergeSort_perm_invariant keyLe ?_ ?_ files files' ?_ hp
  · intro a b c h1 h2
    simp only [keyLe, decide_eq_true_eq] at *
    exact String.le_trans h1 h2
  · intro a b
    simp only [keyLe, Bool.or_eq_true, decide_eq_true_eq]
    exact String.le_total a.1 b.1
  · intro a b ha hb h1 h2
    simp only [keyLe, decide_eq_true_eq] at h1 h2
    exact eq_of_nodup_keys files hn a b ha hb (String.le_antisymm h1 h2)

/-- The documents considered by `SortManifests` do not depend on the order in which the
rendered-file map is iterated. -/
theorem docsOf_perm_invariant (files files' : List (String × Str))
    (hn : (files.map (·.1)).Nodup) (hp : files.Perm files') : docsOf files = docsOf files' := by
  have h := mergeSort_keyLe_perm_invariant files files' hn hp
  unfold keyLe at h
  simp only [docsOf, h]

/-- Among entries with distinct keys, what a filter that admits one key only lets through does
not depend on the order of the list (it is at most one entry). -/
theorem filter_eq_of_perm_of_key {β} {l l' : List (String × β)} (hn : (l.map (·.1)).Nodup)
    (hp : l.Perm l') (q : String × β → Bool) (k : String) (hq : ∀ a, q a = true → a.1 = k) :
    l.filter q = l'.filter q := by
  have hk : ∀ m : List (String × β), (m.filter q).Pairwise fun a b => a.1 = b.1 := fun m =>
    List.pairwise_of_forall_mem_list fun a ha b hb =>
      (hq a (List.mem_filter.1 ha).2).trans (hq b (List.mem_filter.1 hb).2).symm
  refine List.Perm.eq_of_pairwise ?_ (hk l) (hk l') (hp.filter q)
  intro a b ha hb h _
  exact eq_of_nodup_keys l hn a b (List.mem_filter.1 ha).1 (hp.mem_iff.2 (List.mem_filter.1 hb).1) h

end Helm.Manifest
