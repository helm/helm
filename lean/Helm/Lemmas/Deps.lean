import Helm.Model.Deps
import Helm.Lemmas.Values
namespace Helm.Values

theorem ensureSection_other (dest : Tbl) (n k : String) (h : n ≠ k) :
    (ensureSection dest n).get? k = dest.get? k := by
  unfold ensureSection
  split
  · exact Tbl.get?_set_other _ _ _ _ h
  · rfl

theorem ensureSection_same (dest : Tbl) (n : String) :
    (ensureSection dest n).get? n = some ((dest.get? n).getD (.tbl .nil)) := by
  unfold ensureSection
  cases h : dest.get? n with
  | none => exact Tbl.get?_set_same _ _ _
  | some v => exact h

/-- One successful round of the loop over the dependencies. -/
theorem coalesceDeps_cons_ok {m : Bool} {sub : Chart} {rest : ChartList} {dest res : Tbl}
    (h : coalesceDeps m (.cons sub rest) dest = .ok res) :
    ∃ sec r, (ensureSection dest sub.name).get? sub.name = some (.tbl sec) ∧
      coalesce m sub (coalesceGlobals sec (ensureSection dest sub.name)) = .ok r ∧
      coalesceDeps m rest ((ensureSection dest sub.name).set sub.name (.tbl r)) = .ok res := by
  rw [coalesceDeps] at h
  split at h
  · rename_i sec hsec
    split at h
    · rename_i r hr
      exact ⟨sec, r, hsec, hr, h⟩
    · cases h
  · cases h

theorem ChartList.ind {motive : ChartList → Prop} (nil : motive .nil)
    (cons : ∀ c r, motive r → motive (.cons c r)) : ∀ l, motive l
  | .nil => nil
  | .cons c r => cons c r (ChartList.ind nil cons r)

theorem ChartList.names_eq_map (l : ChartList) : l.names = l.toList.map Chart.name := by
  induction l using ChartList.ind with
  | nil => rfl
  | cons c r ih => rw [ChartList.names, ChartList.toList, List.map_cons, ih]

end Helm.Values

namespace Helm.Deps
open Helm.Values

/-- `any` over the tags of a test that recognises exactly one value. -/
theorem any_get?_iff {vt : Tbl} {tags : List String} {p : Option Val → Bool} {w : Val}
    (hp : ∀ o, p o = true ↔ o = some w) :
    (tags.any fun k => p (vt.get? k)) = true ↔ ∃ k ∈ tags, vt.get? k = some w := by
  simp only [List.any_eq_true, hp]

/-- The decision of `tagsPass` from its two tests. -/
theorem tagsPass_bool (hasTrue hasFalse : Bool) :
    (if (!hasTrue && hasFalse) = true then false else true) = false ↔
      hasFalse = true ∧ ¬ hasTrue = true := by
  cases hasTrue <;> cases hasFalse <;> decide

theorem processEnabled_name (fuel : Nat) (c c' : DChart) (v : Tbl) (path : List String)
    (h : processEnabled fuel c v path = .ok c') : c'.name = c.name := by
  cases fuel with
  | zero => rw [processEnabled] at h; cases h; rfl
  | succ n =>
    obtain ⟨name, values, metaDeps, subs⟩ := c
    rw [processEnabled] at h
    split at h
    · cases h; rfl
    · dsimp only at h
      split at h
      · cases h
      · split at h
        · cases h
        · cases h; rfl

theorem processSubs_names (fuel : Nat) (l l' : List DChart) (v : Tbl) (path : List String)
    (h : processSubs fuel l v path = .ok l') : l'.map (·.name) = l.map (·.name) := by
  induction l generalizing l' with
  | nil => rw [processSubs] at h; cases h; rfl
  | cons t rest ih =>
    rw [processSubs] at h
    split at h
    · cases h
    · rename_i t' ht
      split at h
      · cases h
      · rename_i r hr
        cases h
        simp [ih r hr, processEnabled_name fuel t t' v _ ht]

theorem DChartList.toList_ofList (l : List DChart) : (DChartList.ofList l).toList = l := by
  induction l with
  | nil => rfl
  | cons a l ih => rw [DChartList.ofList, DChartList.toList, ih]

end Helm.Deps
