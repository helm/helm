/-
Lemmas about the interleaving model: an invariant of every reachable world, whatever the
number of processes, the schedule and the initial history.
-/
import Helm.Lemmas.Ledger
import Helm.Model.Conc

namespace Helm.Conc
open Helm.Ledger

theorem mem_middle {α : Type} {a b : List α} {p x : α} : x ∈ a ++ p :: b ↔ x = p ∨ x ∈ a ++ b := by
  simp only [List.mem_append, List.mem_cons, or_left_comm]

theorem forall_mem_middle {α : Type} {a b : List α} {p : α} {P : α → Prop} :
    (∀ x ∈ a ++ p :: b, P x) ↔ P p ∧ ∀ x ∈ a ++ b, P x := by
  simp only [mem_middle, forall_eq_or_imp]

/-- Whatever every step of every process keeps holds after any schedule; the stepping process is
singled out as `a ++ p :: b`. -/
theorem run_induction {P : Ledger → List Proc → Prop}
    (hstep : ∀ l a p b, P l (a ++ p :: b) → P (stepProc p l).2 (a ++ (stepProc p l).1 :: b))
    (w : World) (schedule : List Nat) (h : P w.ledger w.procs) :
    P (run w schedule).ledger (run w schedule).procs := by
  induction schedule generalizing w with
  | nil => exact h
  | cons i rest ih =>
    apply ih (step w i)
    unfold step
    cases hp : w.procs[i]? with
    | none => exact h
    | some p =>
      obtain ⟨hi, rfl⟩ := List.getElem?_eq_some_iff.mp hp
      rw [← List.take_append_drop i w.procs, List.drop_eq_getElem_cons hi] at h
      simpa only [List.set_eq_take_append_cons_drop, hi, if_true] using hstep _ _ _ _ h

theorem revs_setStatus (l : Ledger) (r : Nat) (s : Status) : revs (setStatus l r s) = revs l :=
  Helm.Ledger.revs_setStatus l r s

/-- what every process satisfies in every reachable world -/
def ProcOk (l : Ledger) (p : Proc) : Prop :=
  (∀ r, p.made = some r → r ∈ revs l) ∧
  (p.touched = true → p.made.isSome = true) ∧
  (match p.pc with
    | .start | .read _ | .ready _ _ | .done false => p.made = none ∧ p.touched = false
    | _ => p.made.isSome = true)

/-- the stepping process keeps its own invariant; the ledger only gains revisions; the record it
makes, if any, is its first and has a revision that was not in the ledger -/
theorem stepProc_ok (p : Proc) (l : Ledger) (h : ProcOk l p) :
    ProcOk (stepProc p l).2 (stepProc p l).1 ∧
    (∀ r ∈ revs l, r ∈ revs (stepProc p l).2) ∧
    ((stepProc p l).1.made = p.made ∨
      p.made = none ∧ ∃ r, (stepProc p l).1.made = some r ∧ r ∉ revs l) := by
  obtain ⟨h1, h2, h3⟩ := h
  -- `{ p with pc := _ }.made` reduces to `p.made` (likewise `touched`): where only the program
  -- counter moves, the facts about `p` are, as they stand, the facts about the new state
  have same : (∀ r ∈ revs l, r ∈ revs l) ∧
      (p.made = p.made ∨ p.made = none ∧ ∃ r, p.made = some r ∧ r ∉ revs l) :=
    ⟨fun _ hr => hr, Or.inl rfl⟩
  have hs : ∀ r s, ∀ x ∈ revs l, x ∈ revs (setStatus l r s) := by
    intro r s x hx
    rw [revs_setStatus]
    exact hx
  unfold stepProc
  cases hpc : p.pc with
  | start =>
    rw [hpc] at h3
    cases p.kind with
    | install =>
      simp only
      split <;> exact ⟨⟨h1, h2, h3⟩, same⟩
    | upgrade =>
      simp only
      split
      · exact ⟨⟨h1, h2, h3⟩, same⟩
      · split
        · exact ⟨⟨h1, h2, h3⟩, same⟩
        · split <;> exact ⟨⟨h1, h2, h3⟩, same⟩
  | read b =>
    rw [hpc] at h3
    exact ⟨⟨h1, h2, h3⟩, same⟩
  | ready b cur =>
    rw [hpc] at h3
    simp only
    split
    · exact ⟨⟨h1, h2, h3⟩, same⟩
    · rename_i hc
      refine ⟨⟨?_, fun _ => rfl, rfl⟩, ?_, Or.inr ⟨h3.1, b + 1, rfl, by simpa using hc⟩⟩
      · intro r hr
        cases hr
        simp [revs]
      · intro r hr
        simp only [revs, List.map_append, List.mem_append]
        exact Or.inl hr
  | created r cur =>
    rw [hpc] at h3
    exact ⟨⟨h1, fun _ => h3, h3⟩, same⟩
  | mutated r cur =>
    rw [hpc] at h3
    cases cur <;> exact ⟨⟨fun x hx => hs _ _ x (h1 x hx), h2, h3⟩, hs _ _, Or.inl rfl⟩
  | superseded r =>
    rw [hpc] at h3
    exact ⟨⟨fun x hx => hs _ _ x (h1 x hx), h2, h3⟩, hs _ _, Or.inl rfl⟩
  | done ok =>
    exact ⟨⟨h1, h2, h3⟩, same⟩

/-- the invariant of a world -/
def Inv (w : World) : Prop :=
  (∀ p ∈ w.procs, ProcOk w.ledger p) ∧ (w.procs.filterMap (·.made)).Pairwise (· ≠ ·)

theorem ProcOk_mono {l l' : Ledger} (hl : ∀ r ∈ revs l, r ∈ revs l') {p : Proc} (h : ProcOk l p) :
    ProcOk l' p := ⟨fun r hr => hl r (h.1 r hr), h.2.1, h.2.2⟩

theorem stepProc_inv (l : Ledger) (a : List Proc) (p : Proc) (b : List Proc) (h : Inv ⟨l, a ++ p :: b⟩) :
    Inv ⟨(stepProc p l).2, a ++ (stepProc p l).1 :: b⟩ := by
  obtain ⟨hp, ho⟩ := forall_mem_middle.mp h.1
  obtain ⟨hp', hmono, hmade⟩ := stepProc_ok p l hp
  refine ⟨forall_mem_middle.mpr ⟨hp', fun x hx => ProcOk_mono hmono (ho x hx)⟩, ?_⟩
  have hpw := h.2
  simp only [List.filterMap_append, List.filterMap_cons] at hpw ⊢
  rcases hmade with hsame | ⟨hnone, r, hr, hfresh⟩
  · rw [hsame]
    exact hpw
  · -- a fresh revision differs from all that the others made: those are in the ledger
    rw [hnone] at hpw
    rw [hr, List.pairwise_middle (fun h => h.symm)]
    refine List.pairwise_cons.mpr ⟨?_, hpw⟩
    intro y hy heq
    rw [← List.filterMap_append] at hy
    obtain ⟨x, hx, hxy⟩ := List.mem_filterMap.mp hy
    exact hfresh (heq ▸ (ho x hx).1 y hxy)

theorem run_inv (w : World) (schedule : List Nat) (h : Inv w) : Inv (run w schedule) :=
  run_induction (P := fun l ps => Inv ⟨l, ps⟩) stepProc_inv w schedule h

/-- fresh processes over any history satisfy the invariant -/
theorem init_inv (l : Ledger) (ps : List Proc) (h : ∀ p ∈ ps, p.pc = .start ∧ p.made = none ∧ p.touched = false) :
    Inv ⟨l, ps⟩ := by
  constructor
  · intro p hp
    obtain ⟨h1, h2, h3⟩ := h p hp
    exact ⟨by simp [h2], by simp [h3], by simp [h1, h2, h3]⟩
  · have : ps.filterMap (·.made) = [] := by
      apply List.filterMap_eq_nil_iff.mpr
      intro p hp
      exact (h p hp).2.1
    rw [this]
    exact List.Pairwise.nil

end Helm.Conc
