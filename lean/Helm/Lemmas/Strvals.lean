import Helm.Model.Strvals
import Helm.Model.Options
namespace Helm.Strvals
open Helm.Values

theorem valListLoop_no_panic (m : Mode) (fuel : Nat) (s : Str) (l : VList) :
    (valListLoop m fuel s l).err ≠ some .panic := by
  induction fuel generalizing s l with
  | zero => simp [valListLoop]
  | succ n ih =>
    rw [valListLoop]
    split
    · simp
    · simp
    · exact ih _ _

theorem valList_no_panic (m : Mode) (s : Str) : (valList m s).err ≠ some .panic := by
  unfold valList
  split
  · simp
  · exact valListLoop_no_panic _ _ _ _
  · simp

theorem rhs_no_panic (m : Mode) (s : Str) : (rhs m s).2.1 ≠ some .panic := by
  have hv := valList_no_panic m s
  unfold rhs
  cases m
  case literal => simp
  all_goals
    simp only
    split
    · simp
    · split <;> simp_all

theorem key_no_panic (m : Mode) (fuel : Nat) (data : Tbl) (level : Nat) (s : Str) :
    (key m fuel data level s).err ≠ some .panic := by
  induction fuel generalizing data level s with
  | zero => simp [key]
  | succ n ih =>
    rw [key]
    split
    · split <;> simp
    · split
      · simp
      · dsimp only
        split
        · simp
        · split
          · simp
          · -- `listItem` can panic: the arm before this one is the `recover`, and here it was not taken
            rename_i he
            exact he
    · have := rhs_no_panic m ‹Str›
      split <;> simp_all
    · simp
    · dsimp only
      split
      · simp
      · split
        · simp
        · rename_i inner _
          have := ih inner (level + 1) ‹Str›
          split
          · simp
          · split <;> simp_all

theorem parseLoop_no_panic (m : Mode) (fuel : Nat) (data : Tbl) (s : Str) :
    (parseLoop m fuel data s).2 ≠ some .panic := by
  induction fuel generalizing data s with
  | zero => simp [parseLoop]
  | succ n ih =>
    rw [parseLoop]
    have hk := key_no_panic m (s.length + 1) data 0 s
    split
    · exact ih _ _
    · simp
    · rename_i e he heq; simp only; intro h; rw [h] at heq; exact hk heq

theorem parseInto_no_panic (m : Mode) (s : Str) (dest : Tbl) :
    (parseInto m s dest).2 ≠ some .panic :=
  parseLoop_no_panic _ _ _ _

end Helm.Strvals
