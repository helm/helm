import Helm.Model.Manifest
namespace Helm.Manifest

/-- What is left of a `dropWhile p` starts with an element failing `p`, and so does every prefix of it. -/
theorem dropWhile_eq_self_of_prefix {α} {p : α → Bool} {t l : List α} (h : t <+: l.dropWhile p) :
    t.dropWhile p = t := by
  cases t with
  | nil => rfl
  | cons a t =>
    obtain ⟨r, hr⟩ := h
    have ha := List.head?_dropWhile_not p l
    rw [← hr] at ha
    exact List.dropWhile_cons_of_neg (by simpa using ha)

theorem trimSpace_idem (s : Str) : trimSpace (trimSpace s) = trimSpace s := by
  unfold trimSpace
  -- dropping a trailing run leaves a prefix
  have h : ((s.dropWhile isGoSpace).reverse.dropWhile isGoSpace).reverse <+: s.dropWhile isGoSpace := by
    simpa using List.reverse_prefix.2 (List.dropWhile_suffix isGoSpace (l := (s.dropWhile isGoSpace).reverse))
  rw [dropWhile_eq_self_of_prefix h, List.reverse_reverse,
    dropWhile_eq_self_of_prefix (List.prefix_refl _)]

theorem classify_generic {table path doc h m} (hc : classify table path doc h = .generic m) :
    (m.name, m.content) = (path, doc) := by
  unfold classify at hc
  split at hc
  · cases hc; rfl
  · split at hc <;> cases hc

theorem classify_hook {table path doc h hk} (hc : classify table path doc h = .hook hk) :
    (hk.path, hk.manifest) = (path, doc) := by
  unfold classify at hc
  split at hc
  · cases hc
  · split at hc
    · cases hc
    · cases hc; rfl

theorem classify_partition (table : List (String × String)) (headOf : Str → Head)
    (docs : List (String × Str)) :
    ((genericOf (classifyAll table headOf docs)).map (fun m => (m.name, m.content)) ++
      (hooksOf (classifyAll table headOf docs)).map (fun h => (h.path, h.manifest)) ++
      docs.filter (fun d => classify table d.1 d.2 (headOf d.2) = .dropped)).Perm docs := by
  induction docs with
  | nil => simp [classifyAll, genericOf, hooksOf]
  | cons pd rest ih =>
    obtain ⟨p, d⟩ := pd
    simp only [classifyAll, List.map_cons] at ih ⊢
    cases hc : classify table p d (headOf d) with
    | generic m =>
      have := classify_generic hc
      simp only [genericOf, hooksOf, List.map_cons, List.filter_cons, hc]
      simp only [this, List.cons_append]
      simpa using List.Perm.cons (p, d) ih
    | hook hk =>
      have := classify_hook hc
      simp only [genericOf, hooksOf, List.map_cons, List.filter_cons, hc]
      simp only [this]
      refine List.Perm.trans ?_ (List.Perm.cons (p, d) ih)
      simp only [List.append_assoc, List.cons_append]
      exact List.perm_middle
    | dropped =>
      simp only [genericOf, hooksOf, List.filter_cons, hc]
      simp only [decide_true, if_true]
      refine List.Perm.trans ?_ (List.Perm.cons (p, d) ih)
      exact List.perm_middle

/-- `extractNotes` in closed form: the notes text is the selected notes files joined by newlines,
in the order met; the rest is every file that is not a notes file, in order. -/
theorem extractNotes_eq (subNotes : Bool) (main : String) (files : List (String × Str)) :
    extractNotes subNotes main files =
      ((files.filter fun kv => hasSuffix kv.1.toList notesSuffix && (subNotes || kv.1 = main)).foldl
          (fun a kv => if a.isEmpty then kv.2 else a ++ ['\n'] ++ kv.2) [],
        files.filter fun kv => !hasSuffix kv.1.toList notesSuffix) := by
  have h : ∀ acc : Str × List (String × Str),
      files.foldl (fun (acc : Str × List (String × Str)) (kv : String × Str) =>
        if hasSuffix kv.1.toList notesSuffix then
          if subNotes || kv.1 = main then
            ((if acc.1.isEmpty then kv.2 else acc.1 ++ ['\n'] ++ kv.2), acc.2)
          else acc
        else (acc.1, acc.2 ++ [kv])) acc =
      ((files.filter fun kv => hasSuffix kv.1.toList notesSuffix && (subNotes || kv.1 = main)).foldl
          (fun a kv => if a.isEmpty then kv.2 else a ++ ['\n'] ++ kv.2) acc.1,
        acc.2 ++ files.filter fun kv => !hasSuffix kv.1.toList notesSuffix) := by
    induction files with
    | nil => simp
    | cons kv rest ih =>
      intro acc
      rw [List.foldl_cons, ih]
      by_cases h1 : hasSuffix kv.1.toList notesSuffix = true
      · by_cases h2 : (subNotes || decide (kv.1 = main)) = true <;> simp [h1, h2]
      · simp [h1]
  simpa [extractNotes] using h ([], [])

end Helm.Manifest
