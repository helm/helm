/-
Lemmas about the path model: `splitOn` and `joinWith` undo each other; `path.Clean` of a relative
path is some `..`s followed by ordinary components, and leaves a path of ordinary components
alone; when `normName` accepts; one round of the size loop and what it adds up to.
-/
import Helm.Model.ArchivePath
namespace Helm.ArchivePath

theorem splitOn_ne_nil (c : Char) (s : Str) : splitOn c s ≠ [] := by
  induction s with
  | nil => simp [splitOn]
  | cons x r ih =>
    simp only [splitOn]
    split
    · simp
    · split <;> simp

theorem splitOn_no_sep (c : Char) (s : Str) (hs : c ∉ s) : splitOn c s = [s] := by
  induction s with
  | nil => rfl
  | cons x r ih =>
    simp only [List.mem_cons, not_or] at hs
    simp only [splitOn]
    have hx : ¬ x = c := fun h => hs.1 h.symm
    simp [hx, ih hs.2]

theorem splitOn_append_sep (c : Char) (p rest : Str) (hp : c ∉ p) :
    splitOn c (p ++ c :: rest) = p :: splitOn c rest := by
  induction p with
  | nil => simp [splitOn]
  | cons x r ih =>
    simp only [List.mem_cons, not_or] at hp
    have hx : ¬ x = c := fun h => hp.1 h.symm
    simp only [List.cons_append, splitOn, hx, if_false, ih hp.2]

theorem splitOn_mem_no_sep (c : Char) (s : Str) : ∀ x ∈ splitOn c s, c ∉ x := by
  induction s with
  | nil => intro x hx; simp [splitOn] at hx; subst hx; simp
  | cons y r ih =>
    obtain ⟨p, ps, hsp⟩ := List.exists_cons_of_ne_nil (splitOn_ne_nil c r)
    rw [hsp, List.forall_mem_cons] at ih
    rw [splitOn, hsp]
    split
    · exact List.forall_mem_cons.mpr ⟨List.not_mem_nil, List.forall_mem_cons.mpr ih⟩
    · rename_i hyc
      exact List.forall_mem_cons.mpr ⟨by simpa [Ne.symm hyc] using ih.1, ih.2⟩

theorem split_join (c : Char) (l : List Str) (hl : l ≠ []) (hno : ∀ x ∈ l, c ∉ x) :
    splitOn c (joinWith c l) = l := by
  induction l with
  | nil => exact absurd rfl hl
  | cons p ps ih =>
    rw [List.forall_mem_cons] at hno
    cases ps with
    | nil => exact splitOn_no_sep c p hno.1
    | cons q qs =>
      simp only [joinWith]
      rw [splitOn_append_sep c p _ hno.1, ih (List.cons_ne_nil _ _) hno.2]

theorem join_split (c : Char) (s : Str) : joinWith c (splitOn c s) = s := by
  induction s with
  | nil => rfl
  | cons x r ih =>
    obtain ⟨p, ps, hsp⟩ := List.exists_cons_of_ne_nil (splitOn_ne_nil c r)
    rw [hsp] at ih
    rw [splitOn, hsp]
    split
    · rename_i hx
      simp [joinWith, ih, hx]
    · rw [← ih]
      cases ps <;> rfl

theorem not_abs_of_comps {n : Str} (h : [] ∉ splitOn '/' n) : n ≠ [] ∧ isAbs n = false := by
  cases n with
  | nil => exact absurd List.mem_cons_self h
  | cons x r =>
    refine ⟨List.cons_ne_nil _ _, ?_⟩
    by_cases hx : x = '/'
    · subst hx
      exact absurd (by simp [splitOn]) h
    · simp [isAbs, hx]

/-- an ordinary path component -/
def Normal (c : Str) : Prop := c ≠ [] ∧ c ≠ ['.'] ∧ c ≠ dotdot ∧ '/' ∉ c

theorem cleanStep_skip (rooted : Bool) (stack : List Str) {c : Str} (h : c = [] ∨ c = ['.']) :
    cleanStep rooted stack c = stack := by
  rcases h with rfl | rfl <;> rfl

theorem cleanStep_dotdot (top : Str) (rest : List Str) :
    cleanStep false (top :: rest) dotdot = if top = dotdot then dotdot :: top :: rest else rest := rfl

theorem cleanStep_push (rooted : Bool) (stack : List Str) {c : Str} (h1 : c ≠ []) (h2 : c ≠ ['.'])
    (h3 : c ≠ dotdot) : cleanStep rooted stack c = c :: stack := by
  simp [cleanStep, h1, h2, h3]

/-- shape of the component stack (top first): ordinary components on top of leading `..`s -/
def Stk (stack : List Str) : Prop :=
  ∃ ns ds, stack = ns ++ ds ∧ (∀ x ∈ ns, Normal x) ∧ (∀ d ∈ ds, d = dotdot)

theorem cleanStep_stk (stack : List Str) (c : Str) (hc : '/' ∉ c) (h : Stk stack) :
    Stk (cleanStep false stack c) := by
  obtain ⟨ns, ds, rfl, hns, hds⟩ := h
  by_cases h1 : c = [] ∨ c = ['.']
  · rw [cleanStep_skip _ _ h1]
    exact ⟨ns, ds, rfl, hns, hds⟩
  · rw [not_or] at h1
    by_cases h2 : c = dotdot
    · subst h2
      cases ns with
      | cons n ns' =>
        rw [List.forall_mem_cons] at hns
        rw [List.cons_append, cleanStep_dotdot, if_neg hns.1.2.2.1]
        exact ⟨ns', ds, rfl, hns.2, hds⟩
      | nil =>
        refine ⟨[], dotdot :: ds, ?_, by simp, List.forall_mem_cons.mpr ⟨rfl, hds⟩⟩
        cases ds with
        | nil => rfl
        | cons d ds' =>
          rw [List.nil_append, cleanStep_dotdot, if_pos (hds d List.mem_cons_self)]
          rfl
    · rw [cleanStep_push _ _ h1.1 h1.2 h2]
      exact ⟨c :: ns, ds, rfl, List.forall_mem_cons.mpr ⟨⟨h1.1, h1.2, h2, hc⟩, hns⟩, hds⟩

/-- `path.Clean` of a relative path: leading `..`s, then ordinary components. -/
theorem cleanComps_shape (s : Str) :
    ∃ ds ns, cleanComps false (splitOn '/' s) = ds ++ ns ∧ (∀ d ∈ ds, d = dotdot) ∧ (∀ x ∈ ns, Normal x) := by
  obtain ⟨ns, ds, h, hns, hds⟩ : Stk ((splitOn '/' s).foldl (cleanStep false) []) :=
    List.foldlRecOn _ _ ⟨[], [], rfl, by simp, by simp⟩
      fun stack h c hc => cleanStep_stk stack c (splitOn_mem_no_sep '/' s c hc) h
  refine ⟨ds.reverse, ns.reverse, ?_, ?_, ?_⟩
  · simp [cleanComps, h]
  · intro d hd; exact hds d (List.mem_reverse.mp hd)
  · intro x hx; exact hns x (List.mem_reverse.mp hx)

theorem cleanComps_normal (comps : List Str) (h : ∀ c ∈ comps, Normal c) : cleanComps false comps = comps := by
  have : ∀ stack, comps.foldl (cleanStep false) stack = comps.reverse ++ stack := by
    induction comps with
    | nil => intro s; rfl
    | cons c rest ih =>
      rw [List.forall_mem_cons] at h
      intro s
      rw [List.foldl_cons, cleanStep_push _ _ h.1.1 h.1.2.1 h.1.2.2.1, ih h.2]
      simp
  simp [cleanComps, this]

theorem pathClean_rel (m : Str) (hm : isAbs m = false) :
    pathClean m =
      if cleanComps false (splitOn '/' m) = [] then ['.'] else joinWith '/' (cleanComps false (splitOn '/' m)) := by
  cases m with
  | nil => rfl
  | cons x r =>
    unfold pathClean
    split
    · rename_i h; cases h
    · rename_i h; cases h; cases hm
    · split
      · rename_i heq
        rw [if_pos heq]
      · rename_i hne
        rw [if_neg hne]

theorem joinWith_cons_prefix (c : Char) (p : Str) (ps : List Str) : p.isPrefixOf (joinWith c (p :: ps)) = true := by
  cases ps <;> simp [joinWith]

/-- A cleaned relative path that is not `.` and does not start with `..` consists of ordinary
components. -/
theorem pathClean_comps (m : Str) (hm : isAbs m = false) (hdot : pathClean m ≠ ['.'])
    (hpre : dotdot.isPrefixOf (pathClean m) = false) : ∀ c ∈ splitOn '/' (pathClean m), Normal c := by
  obtain ⟨ds, ns, hshape, hds, hns⟩ := cleanComps_shape m
  rw [pathClean_rel m hm, hshape] at hdot hpre ⊢
  by_cases hnil : ds ++ ns = []
  · rw [if_pos hnil] at hdot
    exact absurd rfl hdot
  · rw [if_neg hnil] at hpre ⊢
    cases ds with
    | cons d ds' =>
      -- a leading `..` would show as a prefix of the joined name
      rw [hds d List.mem_cons_self, List.cons_append, joinWith_cons_prefix] at hpre
      cases hpre
    | nil =>
      rw [List.nil_append] at hnil ⊢
      rw [split_join '/' ns hnil fun x hx => (hns x hx).2.2.2]
      exact hns

theorem pathClean_of_normal (n : Str) (h : ∀ c ∈ splitOn '/' n, Normal c) : pathClean n = n := by
  rw [pathClean_rel n (not_abs_of_comps fun hm => (h [] hm).1 rfl).2, cleanComps_normal _ h,
    if_neg (splitOn_ne_nil '/' n), join_split]

theorem ite_error_eq_ok {ε α : Type} (c : Prop) [Decidable c] (e : ε) (x : Except ε α) (a : α) :
    (if c then .error e else x) = .ok a ↔ ¬c ∧ x = .ok a := by
  split <;> simp [*]

/-- `normName` accepts exactly when none of its five checks fires. -/
theorem normName_eq_ok_iff (s n : Str) :
    normName s = .ok n ↔
      let parts := splitOn (if s.contains '\\' then '\\' else '/') s
      let m := joinWith '/' parts.tail
      isAbs m = false ∧ pathClean m ≠ ['.'] ∧ dotdot.isPrefixOf (pathClean m) = false ∧
        drivePrefix (pathClean m) = false ∧ parts.head? ≠ some "Chart.yaml".toList ∧ pathClean m = n := by
  simp only [normName, ite_error_eq_ok, Except.ok.injEq, Bool.not_eq_true, ne_eq]

/-- A clean relative path: non-empty, not rooted, every `/`-separated component is an ordinary
name (not empty, not `.`, not `..`), no drive prefix. -/
def SafeRel (n : Str) : Prop :=
  n ≠ [] ∧ n.head? ≠ some '/' ∧ (∀ c ∈ splitOn '/' n, c ≠ [] ∧ c ≠ ['.'] ∧ c ≠ dotdot) ∧
  drivePrefix n = false

/-- One round of the size loop.  Once the first check has passed `size ≤ remaining`, so the `min`
and the `written < size` test do nothing. -/
theorem sizeLoop_cons (maxFile s : Nat) (rest : List Nat) (rem read : Nat) :
    sizeLoop maxFile (s :: rest) rem read =
      if rem < s ∨ maxFile < s then .rejected read
      else if s = rem then .rejected (read + s)
      else sizeLoop maxFile rest (rem - s) (read + s) := by
  rw [sizeLoop]
  by_cases h1 : s > rem
  · rw [if_pos h1, if_pos (Or.inl h1)]
  · by_cases h2 : s > maxFile
    · rw [if_neg h1, if_pos h2, if_pos (Or.inr h2)]
    · have h3 : rem - s = 0 ↔ s = rem := by omega
      simp only [if_neg h1, if_neg h2, if_neg (not_or.mpr ⟨h1, h2⟩), Nat.min_eq_left (Nat.le_of_not_gt h1),
        Nat.lt_irrefl, decide_false, Bool.false_or, decide_eq_true_eq, h3]

theorem sizeLoop_accepted (maxFile : Nat) (sizes : List Nat) :
    ∀ (rem read r : Nat), sizeLoop maxFile sizes rem read = .accepted r →
      (∀ s ∈ sizes, s ≤ maxFile) ∧ r = read + sizes.sum ∧ (sizes ≠ [] → sizes.sum < rem) := by
  induction sizes with
  | nil =>
    intro rem read r h
    cases h
    simp
  | cons s rest ih =>
    intro rem read r h
    rw [sizeLoop_cons] at h
    split at h
    · cases h
    · split at h
      · cases h
      · obtain ⟨ha, hb, hc⟩ := ih _ _ _ h
        rw [List.sum_cons]
        refine ⟨List.forall_mem_cons.mpr ⟨by omega, ha⟩, by omega, fun _ => ?_⟩
        cases rest with
        | nil => exact (by omega : s + 0 < rem)
        | cons y ys =>
          have := hc (List.cons_ne_nil _ _)
          omega

theorem sizeLoop_read_le (maxFile : Nat) (sizes : List Nat) :
    ∀ (rem read : Nat), (sizeLoop maxFile sizes rem read).read ≤ read + rem := by
  induction sizes with
  | nil => intro rem read; exact Nat.le_add_right _ _
  | cons s rest ih =>
    intro rem read
    rw [sizeLoop_cons]
    split
    · exact Nat.le_add_right _ _
    · split
      · exact Nat.add_le_add_left (by omega) _
      · have := ih (rem - s) (read + s)
        omega
end Helm.ArchivePath
