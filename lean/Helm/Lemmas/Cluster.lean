/-
Lemmas about the cluster model: association-list maps and the object store (both lists looked up
by a key), the two loops of `Client.update`, the ownership pre-flight, and what install and upgrade
amount to once the pre-flight is done.  Property theorems are in Props/C02, C06, C07.
-/
import Helm.Model.Cluster

namespace Helm.Cluster

/-! ### lists looked up by a key: `SMap` (first component) and `Store` (`Obj.key`) -/

theorem find?_congr' {α : Type} {l : List α} {p q : α → Bool} (h : ∀ a ∈ l, p a = q a) :
    l.find? p = l.find? q := by
  induction l with
  | nil => rfl
  | cons a rest ih =>
    simp only [List.find?_cons, h a List.mem_cons_self]
    rw [ih (fun b hb => h b (List.mem_cons_of_mem _ hb))]

/-- lookup after a key was erased: `SMap.erase` under `SMap.get?`, `Store.del` under `Store.get?` -/
theorem find?_filter_key_ne {α : Type} (key : α → String) (l : List α) (k k' : String) :
    (l.filter (key · ≠ k)).find? (key · = k') = if k' = k then none else l.find? (key · = k') := by
  rw [List.find?_filter]
  split
  · rename_i h
    subst h
    apply List.find?_eq_none.mpr
    intro a _
    simp
  · rename_i h
    apply find?_congr'
    intro a _
    by_cases hk : key a = k'
    · simp [hk, h]
    · simp [hk]

theorem mem_keys_iff_find? {os : List Obj} {k : String} :
    k ∈ os.map (·.key) ↔ (os.find? (·.key = k)).isSome = true := by
  rw [List.find?_isSome, List.mem_map]
  simp

theorem SMap.get?_eq_some {m : SMap} {k v : String} (h : m.get? k = some v) : (k, v) ∈ m := by
  obtain ⟨kv, hf, hv⟩ := Option.map_eq_some_iff.mp h
  have hk : kv.1 = k := by simpa using List.find?_some hf
  subst hk hv
  exact List.mem_of_find?_eq_some hf

theorem SMap.get?_isSome_of_mem {m : SMap} {k v : String} (h : (k, v) ∈ m) : (m.get? k).isSome := by
  unfold SMap.get?
  rw [Option.isSome_map, List.find?_isSome]
  exact ⟨(k, v), h, decide_eq_true rfl⟩

theorem SMap.get?_append_of_none {a b : SMap} {k : String} (h : a.get? k = none) :
    SMap.get? (a ++ b) k = b.get? k := by
  unfold SMap.get? at *
  rw [List.find?_append, Option.map_eq_none_iff.mp h, Option.none_or]

theorem SMap.get?_filter_none {m : SMap} {p : String × String → Bool} {k : String}
    (h : ∀ kv ∈ m, kv.1 = k → p kv = false) : SMap.get? (m.filter p) k = none := by
  unfold SMap.get?
  rw [Option.map_eq_none_iff, List.find?_eq_none]
  intro kv hkv hk
  have hm := List.mem_filter.mp hkv
  rw [h kv hm.1 (of_decide_eq_true hk)] at hm
  exact Bool.false_ne_true hm.2

theorem SMap.get?_set_self (m : SMap) (k v : String) : (m.set k v).get? k = some v := by
  unfold SMap.set SMap.erase SMap.get?
  rw [List.find?_append, find?_filter_key_ne Prod.fst, if_pos rfl]
  simp

theorem SMap.get?_set_ne (m : SMap) {k k' : String} (v : String) (h : k' ≠ k) :
    (m.set k v).get? k' = m.get? k' := by
  unfold SMap.set SMap.erase SMap.get?
  rw [List.find?_append, find?_filter_key_ne Prod.fst, if_neg h]
  simp [Ne.symm h]

/-- does `a` specify everything `b` specifies, with the same values? -/
def SMap.covers (a b : SMap) : Prop := ∀ k, (b.get? k).isSome → a.get? k = b.get? k

theorem SMap.covers_refl (a : SMap) : SMap.covers a a := fun _ _ => rfl

theorem merge3_covers (live old new : SMap) : SMap.covers (merge3 live old new) new := by
  intro k hk
  unfold merge3
  rw [SMap.get?_append_of_none]
  apply SMap.get?_filter_none
  intro kv _ hkv
  cases hn : new.get? kv.1 with
  | none => rw [hkv] at hn; simp [hn] at hk
  | some _ => simp

/-- nothing to send: the live map has every binding of the new one -/
theorem covers_of_not_sent {l n : SMap}
    (h : n.any (fun kv => l.get? kv.1 ≠ some kv.2) = false) : SMap.covers l n := by
  intro k hk
  cases hg : n.get? k with
  | none => simp [hg] at hk
  | some v =>
    have hm := SMap.get?_eq_some hg
    have := List.any_eq_false.mp h (k, v) hm
    simpa using this

/-! ### the object store -/

theorem Store.get?_key {s : Store} {k : String} {o : Obj} (h : s.get? k = some o) : o.key = k := by
  have := List.find?_some h
  simpa using this

theorem Store.get?_del_self (s : Store) (k : String) : (s.del k).get? k = none := by
  unfold Store.del Store.get?
  rw [find?_filter_key_ne Obj.key, if_pos rfl]

theorem Store.get?_del_ne (s : Store) {k k' : String} (h : k' ≠ k) : (s.del k).get? k' = s.get? k' := by
  unfold Store.del Store.get?
  rw [find?_filter_key_ne Obj.key, if_neg h]

theorem Store.get?_put_self (s : Store) (o : Obj) : (s.put o).get? o.key = some o := by
  unfold Store.put Store.get?
  rw [List.find?_append, ← Store.get?, Store.get?_del_self]
  simp

theorem Store.get?_put_ne (s : Store) (o : Obj) {k : String} (h : k ≠ o.key) : (s.put o).get? k = s.get? k := by
  unfold Store.put Store.get?
  rw [List.find?_append, ← Store.get?, Store.get?_del_ne s h]
  simp [Store.get?, Ne.symm h]

theorem Store.get?_foldl_del {α : Type} (key : α → String) (l : List α) (s : Store) (k : String) :
    (l.foldl (fun acc a => acc.del (key a)) s).get? k = if k ∈ l.map key then none else s.get? k := by
  induction l generalizing s with
  | nil => rfl
  | cons a rest ih =>
    rw [List.foldl_cons, ih]
    by_cases hr : k ∈ rest.map key
    · simp [hr]
    · by_cases hk : k = key a
      · simp [hk, Store.get?_del_self]
      · simp [hr, hk, Store.get?_del_ne s hk]

theorem Store.get?_foldl_put_frame (os : List Obj) (s : Store) (k : String) (hk : k ∉ os.map (·.key)) :
    (os.foldl (fun acc r => acc.put r) s).get? k = s.get? k := by
  induction os generalizing s with
  | nil => rfl
  | cons x rest ih =>
    simp only [List.map_cons, List.mem_cons, not_or] at hk
    rw [List.foldl_cons, ih _ hk.2]
    exact Store.get?_put_ne s x hk.1

theorem Store.get?_foldl_put_mem (os : List Obj) (s : Store) (o : Obj) (ho : o ∈ os)
    (hn : (os.map (·.key)).Pairwise (· ≠ ·)) :
    (os.foldl (fun acc r => acc.put r) s).get? o.key = some o := by
  induction os generalizing s with
  | nil => cases ho
  | cons x rest ih =>
    simp only [List.map_cons, List.pairwise_cons] at hn
    rw [List.foldl_cons]
    rcases List.mem_cons.mp ho with h | h
    · subst h
      rw [Store.get?_foldl_put_frame _ _ _ (fun hm => hn.1 _ hm rfl)]
      exact Store.get?_put_self s o
    · exact ih _ h hn.2

/-! ### `updateResource` -/

def Ev.isDelete : Ev → Bool
  | .delete _ => true
  | _ => false

/-- the object has every field, label and annotation the manifest specifies -/
def Obj.covers (o t : Obj) : Prop :=
  SMap.covers o.data t.data ∧ SMap.covers o.labels t.labels ∧ SMap.covers o.annos t.annos

theorem Obj.covers_refl (o : Obj) : o.covers o := ⟨SMap.covers_refl _, SMap.covers_refl _, SMap.covers_refl _⟩

/-- the patch is computed against the live object (replace, strategic merge for kinds the
scheme knows, or three-way merge requested for unstructured ones) -/
def fullMerge (force three : Bool) (t : Obj) : Bool := force || t.typed || three

private theorem m3_covers (l o n : SMap) :
    SMap.covers (if n.isEmpty && !o.isEmpty then [] else merge3 l o n) n := by
  split
  · rename_i h
    have : n = [] := by
      cases n with
      | nil => rfl
      | cons _ _ => simp at h
    subst this
    intro k hk
    simp [SMap.get?] at hk
  · exact merge3_covers l o n

/-- what the live object is after `updateResource` covers the manifest -/
theorem patched_covers (force three : Bool) (live old t : Obj) (h : fullMerge force three t = true) :
    Obj.covers (if (patched force three live old t).2 then (patched force three live old t).1 else live) t := by
  unfold patched
  by_cases hf : force = true
  · simp only [hf, if_true]
    exact Obj.covers_refl t
  · have h3 : (t.typed || three) = true := by
      unfold fullMerge at h
      cases force <;> simp_all
    simp only [hf, h3, if_true]
    simp only [Bool.false_eq_true, if_false]
    split
    · exact ⟨m3_covers _ _ _, m3_covers _ _ _, m3_covers _ _ _⟩
    · rename_i hs
      simp only [Bool.or_eq_true, not_or, Bool.not_eq_true] at hs
      exact ⟨covers_of_not_sent hs.1.1.2, covers_of_not_sent hs.1.2.2, covers_of_not_sent hs.2.2⟩

theorem patched_key (force three : Bool) (live old t : Obj) (h : live.key = t.key) :
    (patched force three live old t).1.key = t.key := by
  cases force
  · exact h
  · rfl

/-! ### the first loop of `Client.update` -/

theorem stepTarget_frame (force three : Bool) (orig : List Obj) (t : Obj) (r : UpRes) (k : String)
    (hk : k ≠ t.key) : (stepTarget force three orig t r).store.get? k = r.store.get? k := by
  unfold stepTarget
  split
  · dsimp only
    split
    · rfl
    · exact Store.get?_put_ne _ _ hk
  · rename_i live hl
    split
    · rfl
    · simp only
      split
      · rename_i old _ _
        have hkey := patched_key force three live old t (Store.get?_key hl)
        exact Store.get?_put_ne _ _ (hkey ▸ hk)
      · rfl

theorem stepTarget_err (force three : Bool) (orig : List Obj) (t : Obj) (r : UpRes)
    (h : (stepTarget force three orig t r).err = false) : r.err = false := by
  unfold stepTarget at h
  split at h
  · dsimp only at h
    split at h
    · simp at h
    · exact h
  · split at h
    · simp at h
    · exact h

theorem stepTarget_present (force three : Bool) (orig : List Obj) (t : Obj) (r : UpRes)
    (h : (stepTarget force three orig t r).err = false) :
    ∃ o, (stepTarget force three orig t r).store.get? t.key = some o ∧
      (fullMerge force three t = true → o.covers t) := by
  unfold stepTarget at h ⊢
  split
  · rename_i hg
    simp only [hg] at h
    dsimp only at h ⊢
    split
    · rename_i hr
      have hr' : t.key ∈ r.rej := by simpa using hr
      simp [hr'] at h
    · exact ⟨t, Store.get?_put_self _ _, fun _ => Obj.covers_refl t⟩
  · rename_i live hl
    split
    · rename_i hn
      simp [hl, hn] at h
    · rename_i old _
      simp only
      have hkey := patched_key force three live old t (Store.get?_key hl)
      by_cases hs : (patched force three live old t).2 = true
      · refine ⟨(patched force three live old t).1, ?_, ?_⟩
        · simp only [hs, if_true]
          have := Store.get?_put_self r.store (patched force three live old t).1
          rwa [hkey] at this
        · intro hm
          have := patched_covers force three live old t hm
          simpa [hs] using this
      · refine ⟨live, ?_, ?_⟩
        · simp only [hs]
          exact hl
        · intro hm
          have := patched_covers force three live old t hm
          simpa [hs] using this

/-- the events one step appends are about the target and none is a delete -/
theorem stepTarget_log (force three : Bool) (orig : List Obj) (t : Obj) (r : UpRes) :
    ∀ e ∈ (stepTarget force three orig t r).log, e ∈ r.log ∨ (e.key = t.key ∧ e.isDelete = false) := by
  intro e he
  unfold stepTarget at he
  -- in every branch the log is `r.log` followed by gets, a create, a patch or a replace of `t.key`
  dsimp only at he
  repeat' split at he
  all_goals
    simp only [List.mem_append, List.mem_cons, List.mem_nil_iff, or_false, or_assoc] at he
    rcases he with h | rfl | rfl | rfl
    · exact Or.inl h
    all_goals exact Or.inr ⟨rfl, rfl⟩

theorem updateTargets_of_err (force three : Bool) (orig ts : List Obj) (r : UpRes) (h : r.err = true) :
    updateTargets force three orig ts r = r := by
  cases ts <;> simp [updateTargets, h]

theorem updateTargets_err (force three : Bool) (orig ts : List Obj) (r : UpRes)
    (h : (updateTargets force three orig ts r).err = false) : r.err = false := by
  cases hr : r.err with
  | false => rfl
  | true => rw [updateTargets_of_err _ _ _ _ _ hr] at h; rw [hr] at h; exact h

theorem updateTargets_frame (force three : Bool) (orig ts : List Obj) (r : UpRes) (k : String)
    (hk : k ∉ ts.map (·.key)) : (updateTargets force three orig ts r).store.get? k = r.store.get? k := by
  induction ts generalizing r with
  | nil => rfl
  | cons t rest ih =>
    simp only [List.map_cons, List.mem_cons, not_or] at hk
    unfold updateTargets
    split
    · rfl
    · rw [ih _ hk.2]
      exact stepTarget_frame _ _ _ _ _ _ hk.1

theorem updateTargets_present (force three : Bool) (orig ts : List Obj) (r : UpRes)
    (hn : (ts.map (·.key)).Pairwise (· ≠ ·))
    (h : (updateTargets force three orig ts r).err = false) :
    ∀ t ∈ ts, ∃ o, (updateTargets force three orig ts r).store.get? t.key = some o ∧
      (fullMerge force three t = true → o.covers t) := by
  induction ts generalizing r with
  | nil => intro t ht; cases ht
  | cons x rest ih =>
    have hr := updateTargets_err _ _ _ _ _ h
    simp only [List.map_cons, List.pairwise_cons] at hn
    unfold updateTargets at h ⊢
    simp only [hr, Bool.false_eq_true, if_false] at h ⊢
    intro t ht
    rcases List.mem_cons.mp ht with hx | hx
    · subst hx
      obtain ⟨o, ho, hc⟩ := stepTarget_present force three orig t r (updateTargets_err _ _ _ _ _ h)
      refine ⟨o, ?_, hc⟩
      -- the later targets have other keys
      rw [updateTargets_frame _ _ _ _ _ _ (fun hm => hn.1 _ hm rfl)]
      exact ho
    · exact ih _ hn.2 h t hx

theorem updateTargets_log (force three : Bool) (orig ts : List Obj) (r : UpRes) :
    ∀ e ∈ (updateTargets force three orig ts r).log,
      e ∈ r.log ∨ (e.key ∈ ts.map (·.key) ∧ e.isDelete = false) := by
  induction ts generalizing r with
  | nil => exact fun e he => Or.inl he
  | cons t rest ih =>
    intro e he
    unfold updateTargets at he
    split at he
    · exact Or.inl he
    · rcases ih _ e he with h | h
      · rcases stepTarget_log force three orig t r e h with h1 | h1
        · exact Or.inl h1
        · exact Or.inr ⟨List.mem_cons.mpr (Or.inl h1.1), h1.2⟩
      · exact Or.inr ⟨List.mem_cons_of_mem _ h.1, h.2⟩

/-! ### the second loop -/

def keepLive (o : Obj) : Bool := o.annos.get? policyAnno = some "keep"

theorem stepDelete_err (target : List Obj) (o : Obj) (r : UpRes) : (stepDelete target o r).err = r.err := by
  unfold stepDelete
  split
  · rfl
  · simp only
    split
    · rfl
    · split <;> rfl

/-- one step changes the store at one key only, that of an original the target dropped: the
object there goes unless it carries the keep policy -/
theorem stepDelete_get? (target : List Obj) (o : Obj) (r : UpRes) (k : String) :
    (stepDelete target o r).store.get? k =
      if k = o.key ∧ k ∉ target.map (·.key) then (r.store.get? k).filter keepLive else r.store.get? k := by
  unfold stepDelete
  split
  · rename_i ht
    rw [if_neg (fun h => h.2 (h.1 ▸ mem_keys_iff_find?.mpr ht))]
  · rename_i ht
    have ht' : o.key ∉ target.map (·.key) := fun h => ht (mem_keys_iff_find?.mp h)
    by_cases hk : k = o.key
    · subst hk
      rw [if_pos ⟨rfl, ht'⟩]
      simp only
      split
      · rename_i hn
        rw [hn]
        rfl
      · rename_i live hl
        rw [hl]
        split
        · rename_i hp
          have hk : keepLive live = true := decide_eq_true hp
          rw [Option.filter_some_pos hk]
          exact hl
        · rename_i hp
          have hk : keepLive live = false := decide_eq_false hp
          rw [Option.filter_some_neg hk]
          exact Store.get?_del_self _ _
    · rw [if_neg (fun h => hk h.1)]
      simp only
      split
      · rfl
      · split
        · rfl
        · exact Store.get?_del_ne _ hk

theorem stepDelete_log (target : List Obj) (o : Obj) (r : UpRes) :
    ∀ e ∈ (stepDelete target o r).log, e ∈ r.log ∨ (e.key = o.key ∧ o.key ∉ target.map (·.key)) := by
  intro e he
  unfold stepDelete at he
  split at he
  · exact Or.inl he
  · rename_i ht
    have ht' : o.key ∉ target.map (·.key) := fun h => ht (mem_keys_iff_find?.mp h)
    -- a get, and perhaps a delete, of `o.key`
    dsimp only at he
    repeat' split at he
    all_goals
      simp only [List.mem_append, List.mem_cons, List.mem_nil_iff, or_false, or_assoc] at he
      rcases he with h | rfl | rfl
      · exact Or.inl h
      all_goals exact Or.inr ⟨rfl, ht'⟩

theorem deleteRemoved_err (target os : List Obj) (r : UpRes) : (deleteRemoved target os r).err = r.err := by
  induction os generalizing r with
  | nil => rfl
  | cons o rest ih => unfold deleteRemoved; rw [ih, stepDelete_err]

/-- the second loop changes the store at the keys of the originals the target dropped, and there
as one step does -/
theorem deleteRemoved_get? (target os : List Obj) (r : UpRes) (k : String) :
    (deleteRemoved target os r).store.get? k =
      if k ∈ os.map (·.key) ∧ k ∉ target.map (·.key) then (r.store.get? k).filter keepLive
      else r.store.get? k := by
  induction os generalizing r with
  | nil => simp [deleteRemoved]
  | cons o rest ih =>
    unfold deleteRemoved
    rw [ih, stepDelete_get?]
    by_cases ht : k ∈ target.map (·.key)
    · simp [ht]
    · by_cases ho : k = o.key
      · subst ho
        simp [ht]
      · simp [ht, ho]

theorem deleteRemoved_log (target os : List Obj) (r : UpRes) :
    ∀ e ∈ (deleteRemoved target os r).log,
      e ∈ r.log ∨ (e.key ∈ os.map (·.key) ∧ e.key ∉ target.map (·.key)) := by
  induction os generalizing r with
  | nil => exact fun e he => Or.inl he
  | cons o rest ih =>
    intro e he
    unfold deleteRemoved at he
    rcases ih _ e he with h | h
    · rcases stepDelete_log target o r e h with h1 | h1
      · exact Or.inl h1
      · exact Or.inr ⟨List.mem_cons.mpr (Or.inl h1.1), h1.1 ▸ h1.2⟩
    · exact Or.inr ⟨List.mem_cons_of_mem _ h.1, h.2⟩

/-! ### `Client.update` as a whole -/

/-- the first loop alone when it ended in an error, otherwise the second loop after it -/
theorem updateR_cases (rej : List String) (force three : Bool) (original target : List Obj) (s : Store) :
    ∃ r, r = updateTargets force three original target { store := s, log := [], rej := rej } ∧
      (r.err = true ∧ updateR rej force three original target s = r ∨
       r.err = false ∧ updateR rej force three original target s = deleteRemoved target original r) := by
  refine ⟨_, rfl, ?_⟩
  unfold updateR
  cases h : (updateTargets force three original target { store := s, log := [], rej := rej }).err
  · exact Or.inr ⟨rfl, by simp [h]⟩
  · exact Or.inl ⟨rfl, by simp [h]⟩

/-- every request is about a target and no delete, or about an original that the target dropped -/
theorem updateR_log (rej : List String) (force three : Bool) (original target : List Obj) (s : Store) :
    ∀ e ∈ (updateR rej force three original target s).log,
      (e.key ∈ target.map (·.key) ∧ e.isDelete = false) ∨
      (e.key ∈ original.map (·.key) ∧ e.key ∉ target.map (·.key)) := by
  intro e he
  obtain ⟨r, hr, ⟨_, h⟩ | ⟨_, h⟩⟩ := updateR_cases rej force three original target s
  · rw [h, hr] at he
    rcases updateTargets_log _ _ _ _ _ e he with h1 | h1
    · cases h1
    · exact Or.inl h1
  · rw [h] at he
    rcases deleteRemoved_log target original r e he with h2 | h2
    · rw [hr] at h2
      rcases updateTargets_log _ _ _ _ _ e h2 with h1 | h1
      · cases h1
      · exact Or.inl h1
    · exact Or.inr h2

/-! ### ownership -/

theorem SMap.merge_one (m : SMap) (k v : String) : SMap.merge m [(k, v)] = m.set k v := rfl
theorem SMap.merge_two (m : SMap) (k v k' v' : String) :
    SMap.merge m [(k, v), (k', v')] = (m.set k v).set k' v' := rfl

theorem stamp_owned (rel ns : String) (o : Obj) : owned (stamp rel ns o) rel ns = true := by
  have h1 : (SMap.merge o.labels [(managedByLabel, "Helm")]).get? managedByLabel = some "Helm" :=
    SMap.get?_set_self _ _ _
  have h2 : (SMap.merge o.annos [(releaseNameAnno, rel), (releaseNsAnno, ns)]).get? releaseNameAnno = some rel := by
    rw [SMap.merge_two, SMap.get?_set_ne _ _ (by simp [releaseNameAnno, releaseNsAnno]), SMap.get?_set_self]
  have h3 : (SMap.merge o.annos [(releaseNameAnno, rel), (releaseNsAnno, ns)]).get? releaseNsAnno = some ns := by
    rw [SMap.merge_two, SMap.get?_set_self]
  simp [owned, stamp, h1, h2, h3]

theorem stamp_key (rel ns : String) (o : Obj) : (stamp rel ns o).key = o.key := rfl
theorem stamp_typed (rel ns : String) (o : Obj) : (stamp rel ns o).typed = o.typed := rfl

theorem keys_map_stamp (rel ns : String) (os : List Obj) :
    (os.map (stamp rel ns)).map (·.key) = os.map (·.key) := by
  rw [List.map_map]
  rfl

/-- an object that covers a stamped manifest object is owned by the release -/
theorem owned_of_covers_stamp {rel ns : String} {o t : Obj} (h : o.covers (stamp rel ns t)) :
    owned o rel ns = true := by
  have hs := stamp_owned rel ns t
  unfold owned at hs ⊢
  simp only [Bool.and_eq_true, decide_eq_true_eq] at hs ⊢
  obtain ⟨⟨h1, h2⟩, h3⟩ := hs
  refine ⟨⟨?_, ?_⟩, ?_⟩
  · rw [h.2.1 _ (by rw [h1]; rfl), h1]
  · rw [h.2.2 _ (by rw [h2]; rfl), h2]
  · rw [h.2.2 _ (by rw [h3]; rfl), h3]

/-! ### the pre-flight visit -/

/-- the resource exists and may not be taken -/
def conflict (takeOwnership : Bool) (rel ns : String) (s : Store) (r : Obj) : Prop :=
  ∃ live, s.get? r.key = some live ∧ mayAdopt takeOwnership rel ns live = false

/-- a conflict is about the key, which the stamp leaves alone -/
theorem exists_conflict_map_stamp {to : Bool} {rel ns : String} {s : Store} {l : List Obj} :
    (∃ r ∈ l.map (stamp rel ns), conflict to rel ns s r) ↔ ∃ r ∈ l, conflict to rel ns s r := by
  constructor
  · rintro ⟨r', hr', hc⟩
    obtain ⟨r, hr, rfl⟩ := List.mem_map.mp hr'
    exact ⟨r, hr, hc⟩
  · rintro ⟨r, hr, hc⟩
    exact ⟨stamp rel ns r, List.mem_map_of_mem hr, hc⟩

theorem pfStep_none (to : Bool) (rel ns : String) (s : Store) (log : List Ev) (r : Obj) :
    pfStep to rel ns s (none, log) r = (none, log) := rfl

theorem pfStep_absent (to : Bool) (rel ns : String) (s : Store) (a : List Obj) (log : List Ev) (r : Obj)
    (hg : s.get? r.key = none) : pfStep to rel ns s (some a, log) r = (some a, log ++ [.get r.key]) := by
  simp only [pfStep, hg]

theorem pfStep_adopt (to : Bool) (rel ns : String) (s : Store) (a : List Obj) (log : List Ev) (r live : Obj)
    (hg : s.get? r.key = some live) (hm : mayAdopt to rel ns live = true) :
    pfStep to rel ns s (some a, log) r = (some (a ++ [r]), log ++ [.get r.key]) := by
  simp only [pfStep, hg, hm, if_true]

theorem pfStep_refuse (to : Bool) (rel ns : String) (s : Store) (a : List Obj) (log : List Ev) (r live : Obj)
    (hg : s.get? r.key = some live) (hm : mayAdopt to rel ns live = false) :
    pfStep to rel ns s (some a, log) r = (none, log ++ [.get r.key]) := by
  simp only [pfStep, hg, hm, Bool.false_eq_true, if_false]

theorem pf_fold_none (to : Bool) (rel ns : String) (s : Store) (rs : List Obj) (log : List Ev) :
    rs.foldl (pfStep to rel ns s) (none, log) = (none, log) := by
  induction rs with
  | nil => rfl
  | cons r rest ih => exact ih

/-- The visit reads, once per resource, until a conflict stops it; without a conflict it hands on
the resources that exist already. -/
theorem pf_fold (to : Bool) (rel ns : String) (s : Store) (rs a : List Obj) (log : List Ev) :
    ∃ reads, (∀ e ∈ reads, e.isWrite = false) ∧
      ((∃ r ∈ rs, conflict to rel ns s r) ∧
          rs.foldl (pfStep to rel ns s) (some a, log) = (none, log ++ reads) ∨
       (¬∃ r ∈ rs, conflict to rel ns s r) ∧
          rs.foldl (pfStep to rel ns s) (some a, log) =
            (some (a ++ rs.filter fun r => (s.get? r.key).isSome), log ++ reads)) := by
  induction rs generalizing a log with
  | nil =>
    refine ⟨[], nofun, Or.inr ⟨?_, ?_⟩⟩
    · rintro ⟨_, h, _⟩
      cases h
    · rw [List.filter_nil, List.append_nil, List.append_nil]
      rfl
  | cons r rest ih =>
    rw [List.foldl_cons]
    by_cases hc : conflict to rel ns s r
    · obtain ⟨live, hg, hm⟩ := hc
      rw [pfStep_refuse _ _ _ _ _ _ _ _ hg hm, pf_fold_none]
      exact ⟨[.get r.key], List.forall_mem_singleton.mpr rfl, Or.inl ⟨⟨r, List.mem_cons_self, live, hg, hm⟩, rfl⟩⟩
    · have hstep : pfStep to rel ns s (some a, log) r =
          (some (a ++ [r].filter fun r => (s.get? r.key).isSome), log ++ [.get r.key]) := by
        cases hg : s.get? r.key with
        | none =>
          rw [pfStep_absent _ _ _ _ _ _ _ hg, List.filter_cons_of_neg (by rw [hg]; exact Bool.false_ne_true),
            List.filter_nil, List.append_nil]
        | some live =>
          cases hm : mayAdopt to rel ns live with
          | true => rw [pfStep_adopt _ _ _ _ _ _ _ _ hg hm, List.filter_cons_of_pos (by rw [hg]; rfl), List.filter_nil]
          | false => exact absurd ⟨live, hg, hm⟩ hc
      obtain ⟨reads, hr, h⟩ := ih (a ++ [r].filter fun r => (s.get? r.key).isSome) (log ++ [.get r.key])
      rw [hstep]
      refine ⟨.get r.key :: reads, List.forall_mem_cons.mpr ⟨rfl, hr⟩, ?_⟩
      rw [List.append_assoc, List.append_assoc, ← List.filter_append] at h
      rcases h with ⟨⟨x, hx, hcx⟩, h⟩ | ⟨hn, h⟩
      · exact Or.inl ⟨⟨x, List.mem_cons_of_mem _ hx, hcx⟩, h⟩
      · refine Or.inr ⟨?_, h⟩
        rintro ⟨x, hx, hcx⟩
        rcases List.mem_cons.mp hx with rfl | hx
        · exact hc hcx
        · exact hn ⟨x, hx, hcx⟩

theorem preflight_cases (to : Bool) (rel ns : String) (rs : List Obj) (s : Store) :
    ∃ reads, (∀ e ∈ reads, e.isWrite = false) ∧
      ((∃ r ∈ rs, conflict to rel ns s r) ∧ preflight to rel ns rs s = (none, reads) ∨
       (¬∃ r ∈ rs, conflict to rel ns s r) ∧
          preflight to rel ns rs s = (some (rs.filter fun r => (s.get? r.key).isSome), reads)) :=
  pf_fold to rel ns s rs [] []

/-- the pre-flight refuses exactly when some resource it would create exists and is not this
release's (and take-ownership was not asked for) -/
theorem preflight_none_iff (to : Bool) (rel ns : String) (rs : List Obj) (s : Store) :
    (preflight to rel ns rs s).1 = none ↔ ∃ r ∈ rs, conflict to rel ns s r := by
  obtain ⟨reads, _, ⟨hc, h⟩ | ⟨hc, h⟩⟩ := preflight_cases to rel ns rs s
  · simp [h, hc]
  · simp [h, hc]

/-! ### install and upgrade around the pre-flight -/

/-- An upgrade reads (the pre-flight over what it would create), and then: refuses, on a conflict;
stops, on a dry run; or makes the update of a rollback to the new manifest from the deployed one
together with the new resources that exist already. -/
theorem upgradeCluster_cases (rel ns : String) (to force dry : Bool) (current target : List Obj) (s : Store)
    (rej : List String) :
    ∃ reads, (∀ e ∈ reads, e.isWrite = false) ∧
      ((∃ r ∈ target, r.key ∉ current.map (·.key) ∧ conflict to rel ns s r) ∧
          upgradeCluster rel ns to force dry current target s rej = ⟨s, reads, false⟩ ∨
       (¬∃ r ∈ target, r.key ∉ current.map (·.key) ∧ conflict to rel ns s r) ∧
         (dry = true ∧ upgradeCluster rel ns to force dry current target s rej = ⟨s, reads, true⟩ ∨
          dry = false ∧ ∃ adopted rb, (∀ a ∈ adopted, a.key ∈ target.map (·.key)) ∧
            rb = rollbackCluster rel ns force (current ++ adopted) target s rej ∧
            upgradeCluster rel ns to force dry current target s rej = ⟨rb.store, reads ++ rb.log, rb.ok⟩)) := by
  have hnew : ∀ {r'}, r' ∈ (target.map (stamp rel ns)).filter (fun t => (current.find? (·.key = t.key)).isNone) ↔
      r' ∈ target.map (stamp rel ns) ∧ r'.key ∉ current.map (·.key) := by
    intro r'
    rw [List.mem_filter, mem_keys_iff_find?, Option.not_isSome_iff_eq_none, Option.isNone_iff_eq_none]
  obtain ⟨reads, hr, ⟨hc, hp⟩ | ⟨hc, hp⟩⟩ := preflight_cases to rel ns
    ((target.map (stamp rel ns)).filter fun t => (current.find? (·.key = t.key)).isNone) s
  · obtain ⟨r', hr', hcf⟩ := hc
    obtain ⟨r, hrt, rfl⟩ := List.mem_map.mp (hnew.mp hr').1
    exact ⟨reads, hr, Or.inl ⟨⟨r, hrt, (hnew.mp hr').2, hcf⟩, by simp only [upgradeCluster, hp]⟩⟩
  · refine ⟨reads, hr, Or.inr ⟨?_, ?_⟩⟩
    · rintro ⟨r, hrt, hk, hcf⟩
      exact hc ⟨stamp rel ns r, hnew.mpr ⟨List.mem_map_of_mem hrt, hk⟩, hcf⟩
    · cases dry
      · refine Or.inr ⟨rfl, _, _, ?_, rfl, by simp only [upgradeCluster, hp]; rfl⟩
        intro a ha
        rw [← keys_map_stamp rel ns]
        exact List.mem_map_of_mem (hnew.mp (List.mem_filter.mp ha).1).1
      · exact Or.inl ⟨rfl, by simp only [upgradeCluster, hp]; rfl⟩

/-- An install reads (the pre-flight over its manifest), and then: refuses, on a conflict; stops,
on a dry run; creates every resource, when none exists yet; or updates to the manifest from the
resources that exist. -/
theorem installCluster_cases (rel ns : String) (to force dry : Bool) (manifest : List Obj) (s : Store)
    (rej : List String) :
    ∃ reads, (∀ e ∈ reads, e.isWrite = false) ∧
      ((∃ r ∈ manifest, conflict to rel ns s r) ∧
          installCluster rel ns to force dry manifest s rej = ⟨s, reads, false⟩ ∨
       (¬∃ r ∈ manifest, conflict to rel ns s r) ∧
         (dry = true ∧ installCluster rel ns to force dry manifest s rej = ⟨s, reads, true⟩ ∨
          dry = false ∧
            (installCluster rel ns to force dry manifest s rej =
              ⟨((manifest.map (stamp rel ns)).filter fun r => !rej.contains r.key).foldl (fun acc r => acc.put r) s,
               reads ++ (manifest.map (stamp rel ns)).map (fun r => .create r.key),
               !(manifest.map (stamp rel ns)).any fun r => rej.contains r.key⟩ ∨
             ∃ adopted up, (∀ a ∈ adopted, a ∈ manifest.map (stamp rel ns)) ∧
               up = updateR rej force to adopted (manifest.map (stamp rel ns)) s ∧
               installCluster rel ns to force dry manifest s rej = ⟨up.store, reads ++ up.log, !up.err⟩))) := by
  obtain ⟨reads, hr, ⟨hc, hp⟩ | ⟨hc, hp⟩⟩ := preflight_cases to rel ns (manifest.map (stamp rel ns)) s
  · exact ⟨reads, hr, Or.inl ⟨exists_conflict_map_stamp.mp hc, by simp only [installCluster, hp]⟩⟩
  · refine ⟨reads, hr, Or.inr ⟨fun h => hc (exists_conflict_map_stamp.mpr h), ?_⟩⟩
    cases dry
    · refine Or.inr ⟨rfl, ?_⟩
      cases he : ((manifest.map (stamp rel ns)).filter fun r => (s.get? r.key).isSome).isEmpty
      · exact Or.inr ⟨_, _, fun a ha => (List.mem_filter.mp ha).1, rfl, by simp only [installCluster, hp, he]; rfl⟩
      · exact Or.inl (by simp only [installCluster, hp, he]; rfl)
    · exact Or.inl ⟨rfl, by simp only [installCluster, hp]; rfl⟩

/-! ### uninstall -/

theorem uninstallCluster_get? (manifest : List Obj) (s : Store) (k : String) :
    (uninstallCluster manifest s).store.get? k =
      if k ∈ (manifest.filter fun o => keepClass o = some false).map (·.key) then none else s.get? k :=
  Store.get?_foldl_del Obj.key _ s k

end Helm.Cluster
