/-
The memory driver refines the key-value map (lemmas for C10), for the calls whose key parses
and names the release it is given with -- the guard the counterexample
`counterexample_memory_dotv` shows to be necessary.  The memory driver keeps its records per
release name, sorted by version; the map keeps them in insertion order: states correspond up to
a permutation, and so do the results of list and query.
-/
import Helm.Model.Storage
namespace Helm.Storage

/-- all records of the memory driver -/
def absMem (m : Mem) : List (String × Rel) := m.flatMap (·.2)

/-- the calls the memory driver is specified for -/
def MemOpOK : Op → Prop
  | .create k r => memKeyOk k = true ∧ memKeyName k = r.name
  | .update k r => memKeyOk k = true ∧ memKeyName k = r.name
  | .get k => memKeyOk k = true
  | .delete k => memKeyOk k = true
  | _ => True

structure MInv (m : Mem) : Prop where
  names : (m.map (·.1)).Nodup
  keyName : ∀ e ∈ m, ∀ kr ∈ e.2, memKeyName kr.1 = e.1
  keys : ∀ e ∈ m, (e.2.map (·.1)).Nodup

/-- outputs agree; lists agree up to order -/
def MOutRel : Out → Out → Prop
  | .rels a, .rels b => a.Perm b
  | x, y => x = y

/-- output sequences agree position by position (lists up to order) -/
def MOutsRel : List Out → List Out → Prop
  | [], [] => True
  | a :: as, b :: bs => MOutRel a b ∧ MOutsRel as bs
  | _, _ => False

/-! ### association lists

`Spec.get?` and `Mem.recs` are the lookup `(l.find? (·.1 = k)).map (·.2)`, at two types of
values; "no entry under `k`" is written `∀ x ∈ l, x.1 ≠ k`. -/
section
variable {β : Type}

theorem get?_none_iff (l : List (String × β)) (k : String) :
    (l.find? (·.1 = k)).map (·.2) = none ↔ ∀ x ∈ l, x.1 ≠ k := by
  simp only [Option.map_eq_none_iff, List.find?_eq_none, decide_eq_true_eq, ne_eq]

theorem get?_some_mem (l : List (String × β)) (k : String) (v : β)
    (h : (l.find? (·.1 = k)).map (·.2) = some v) : (k, v) ∈ l := by
  obtain ⟨x, hx, rfl⟩ := Option.map_eq_some_iff.mp h
  have hk : x.1 = k := by simpa using List.find?_some hx
  subst hk
  exact List.mem_of_find?_eq_some hx

theorem get?_of_mem (l : List (String × β)) (hn : (l.map (·.1)).Nodup) (k : String) (v : β)
    (h : (k, v) ∈ l) : (l.find? (·.1 = k)).map (·.2) = some v := by
  induction l with
  | nil => cases h
  | cons x rest ih =>
    rw [List.map_cons, List.nodup_cons] at hn
    rw [List.find?_cons]
    rcases List.mem_cons.mp h with h | h
    · subst h
      simp
    · have hx : x.1 ≠ k := fun hk => hn.1 (List.mem_map.mpr ⟨(k, v), h, hk.symm⟩)
      simp only [hx, decide_false]
      exact ih hn.2 h

theorem get?_perm (l1 l2 : List (String × β)) (hp : l1.Perm l2) (hn : (l1.map (·.1)).Nodup)
    (k : String) : (l1.find? (·.1 = k)).map (·.2) = (l2.find? (·.1 = k)).map (·.2) := by
  cases h : (l1.find? (·.1 = k)).map (·.2) with
  | some r =>
    exact (get?_of_mem l2 ((hp.map _).nodup_iff.mp hn) k r
      (hp.mem_iff.mp (get?_some_mem l1 k r h))).symm
  | none =>
    exact ((get?_none_iff l2 k).mpr fun x hx =>
      (get?_none_iff l1 k).mp h x (hp.mem_iff.mpr hx)).symm

theorem get?_append_of_ne (a b : List (String × β)) (k : String) (h : ∀ x ∈ b, x.1 ≠ k) :
    ((a ++ b).find? (·.1 = k)).map (·.2) = (a.find? (·.1 = k)).map (·.2) := by
  have : b.find? (·.1 = k) = none := List.find?_eq_none.mpr fun x hx => by simpa using h x hx
  rw [List.find?_append, this, Option.or_none]

theorem any_key (l : List (String × β)) (k : String) :
    l.any (·.1 = k) = ((l.find? (·.1 = k)).map (·.2)).isSome := by
  rw [Bool.eq_iff_iff]
  simp

theorem map_of_ne (l : List (String × β)) (k : String) (c : String × β) (h : ∀ x ∈ l, x.1 ≠ k) :
    l.map (fun x => if x.1 = k then c else x) = l := by
  conv => rhs; rw [← List.map_id l]
  exact List.map_congr_left fun x hx => if_neg (h x hx)

theorem filter_of_ne (l : List (String × β)) (k : String) (h : ∀ x ∈ l, x.1 ≠ k) :
    l.filter (·.1 ≠ k) = l :=
  List.filter_eq_self.mpr fun x hx => decide_eq_true (h x hx)

theorem map_keys (l : List (String × β)) (k : String) (v : β) :
    (l.map fun x => if x.1 = k then (k, v) else x).map (·.1) = l.map (·.1) := by
  rw [List.map_map]
  apply List.map_congr_left
  intro x _
  simp only [Function.comp]
  split
  · rename_i h
    exact h.symm
  · rfl

end

theorem insertSorted_perm (e : String × Rel) (l : List (String × Rel)) :
    (insertSorted e l).Perm (e :: l) := by
  induction l with
  | nil => exact List.Perm.refl _
  | cons x r ih =>
    simp only [insertSorted]
    split
    · exact List.Perm.refl _
    · exact (List.Perm.cons x ih).trans (List.Perm.swap e x r)

/-! ### the per-name table, up to order -/

/-- a table with unique names is, up to order, the entry of a name and the entries of the
other names -/
theorem perm_of_recs (m : Mem) (hn : (m.map (·.1)).Nodup) (n : String) (old : List (String × Rel))
    (h : m.recs n = some old) : m.Perm ((n, old) :: m.filter (·.1 ≠ n)) := by
  induction m with
  | nil => cases h
  | cons x t ih =>
    rw [List.map_cons, List.nodup_cons] at hn
    rw [Mem.recs, List.find?_cons] at h
    by_cases hx : x.1 = n
    · simp only [hx, decide_true, Option.map_some, Option.some.injEq] at h
      have ht := filter_of_ne t n fun e he hen => hn.1 (List.mem_map.mpr ⟨e, he, hen.trans hx.symm⟩)
      rw [List.filter_cons, ht, ← hx, ← h]
      simp
    · simp only [hx, decide_false] at h
      simp only [List.filter_cons, ne_eq, hx, not_false_eq_true, decide_true, if_true]
      exact ((ih hn.2 h).cons x).trans (List.Perm.swap _ _ _)

/-- `setRecs` replaces the entry of the name and leaves the other names alone -/
theorem setRecs_perm (m : Mem) (hn : (m.map (·.1)).Nodup) (n : String) (rs : List (String × Rel)) :
    (m.setRecs n rs).Perm ((n, rs) :: m.filter (·.1 ≠ n)) := by
  have hs : (m.find? (·.1 = n)).isSome = (m.recs n).isSome := Option.isSome_map.symm
  rw [Mem.setRecs, hs]
  cases hr : m.recs n with
  | none =>
    rw [filter_of_ne m n ((get?_none_iff m n).mp hr)]
    exact List.perm_append_singleton _ _
  | some old =>
    have := (perm_of_recs m hn n old hr).map fun e => if e.1 = n then (n, rs) else e
    rw [List.map_cons, if_pos rfl,
      map_of_ne _ n _ fun e he => of_decide_eq_true (List.mem_filter.mp he).2] at this
    exact this

theorem absMem_perm (m : Mem) (hn : (m.map (·.1)).Nodup) (n : String) :
    (absMem m).Perm ((m.recs n).getD [] ++ absMem (m.filter (·.1 ≠ n))) := by
  cases hr : m.recs n with
  | none =>
    rw [filter_of_ne m n ((get?_none_iff m n).mp hr)]
    exact List.Perm.refl _
  | some old => exact (perm_of_recs m hn n old hr).flatMap_right _

theorem absMem_setRecs (m : Mem) (hn : (m.map (·.1)).Nodup) (n : String) (rs : List (String × Rel)) :
    (absMem (m.setRecs n rs)).Perm (rs ++ absMem (m.filter (·.1 ≠ n))) :=
  (setRecs_perm m hn n rs).flatMap_right _

/-- the other names' records hold no key of the name -/
theorem others_keyName (m : Mem) (h : MInv m) (n : String) :
    ∀ x ∈ absMem (m.filter (·.1 ≠ n)), memKeyName x.1 ≠ n := by
  intro x hx
  obtain ⟨e, he, hxe⟩ := List.mem_flatMap.mp hx
  rw [h.keyName e (List.mem_filter.mp he).1 x hxe]
  exact of_decide_eq_true (List.mem_filter.mp he).2

theorem MInv_empty : MInv [] := ⟨List.nodup_nil, nofun, nofun⟩

/-- the records of a name are filed under it, with unique keys -/
theorem MInv.recs {m : Mem} (h : MInv m) (n : String) :
    (∀ kr ∈ (m.recs n).getD [], memKeyName kr.1 = n) ∧ (((m.recs n).getD []).map (·.1)).Nodup := by
  cases hr : m.recs n with
  | none => exact ⟨nofun, List.nodup_nil⟩
  | some old => exact ⟨h.keyName _ (get?_some_mem m n old hr), h.keys _ (get?_some_mem m n old hr)⟩

theorem MInv_setRecs (m : Mem) (h : MInv m) (n : String) (rs : List (String × Rel))
    (hkn : ∀ kr ∈ rs, memKeyName kr.1 = n) (hnd : (rs.map (·.1)).Nodup) : MInv (m.setRecs n rs) := by
  have hp := setRecs_perm m h.names n rs
  have hmem : ∀ e ∈ m.setRecs n rs, e = (n, rs) ∨ e ∈ m := fun e he =>
    (List.mem_cons.mp (hp.mem_iff.mp he)).imp_right fun he => (List.mem_filter.mp he).1
  refine ⟨(hp.map _).nodup_iff.mpr
    (List.nodup_cons.mpr ⟨?_, h.names.sublist (List.filter_sublist.map _)⟩), ?_, ?_⟩
  · intro hm
    obtain ⟨e, he, hen⟩ := List.mem_map.mp hm
    exact of_decide_eq_true (List.mem_filter.mp he).2 hen
  · intro e he
    rcases hmem e he with rfl | he
    · exact hkn
    · exact h.keyName e he
  · intro e he
    rcases hmem e he with rfl | he
    · exact hnd
    · exact h.keys e he

/-- unique keys over the whole table: keys of different entries have different names -/
theorem absMem_keys_nodup (m : Mem) (h : MInv m) : ((absMem m).map (·.1)).Nodup := by
  rw [absMem, List.map_flatMap]
  refine List.pairwise_flatMap.mpr ⟨h.keys, (List.pairwise_map.mp h.names).imp_of_mem ?_⟩
  intro e1 e2 h1 h2 hne k1 hk1 k2 hk2 heq
  obtain ⟨x1, hx1, rfl⟩ := List.mem_map.mp hk1
  obtain ⟨x2, hx2, hk⟩ := List.mem_map.mp hk2
  rw [← h.keyName e1 h1 x1 hx1, ← h.keyName e2 h2 x2 hx2, hk] at hne
  exact hne (congrArg memKeyName heq)

/-- the lookup of the flattened table is the lookup among the records of the key's name -/
theorem memLookup (m : Mem) (h : MInv m) (k : String) :
    Spec.get? (absMem m) k = Spec.get? ((m.recs (memKeyName k)).getD []) k :=
  (get?_perm _ _ (absMem_perm m h.names (memKeyName k)) (absMem_keys_nodup m h) k).trans
    (get?_append_of_ne _ _ k fun x hx hxk => others_keyName m h _ x hx (by rw [hxk]))

theorem flat_values (m : Mem) : (m.flatMap fun e => e.2.map (·.2)) = (absMem m).map (·.2) := by
  simp [absMem, List.map_flatMap]

/-! ### `memStep` reads and writes the records of one name

(`getD []`: an unknown name has no records, as Go reads a missing map entry) -/

theorem memStep_create (m : Mem) (k : String) (r : Rel) : memStep m (.create k r) =
    if (Spec.get? ((m.recs r.name).getD []) k).isSome then (m, .exists)
    else (m.setRecs r.name (insertSorted (k, r) ((m.recs r.name).getD [])), .ok) := by
  rw [memStep]
  cases m.recs r.name with
  | none => rfl
  | some rs =>
    simp only [any_key]
    rfl

theorem memStep_get (m : Mem) (k : String) (hk : memKeyOk k = true) : memStep m (.get k) =
    match Spec.get? ((m.recs (memKeyName k)).getD []) k with
    | some r => (m, .rel r)
    | none => (m, .notFound) := by
  simp only [memStep, hk, Bool.not_true, Bool.false_eq_true, if_false]
  cases m.recs (memKeyName k) with
  | none => rfl
  | some rs =>
    simp only [Option.bind_some, Option.getD_some, Spec.get?]
    cases rs.find? (·.1 = k) <;> rfl

theorem memStep_update (m : Mem) (k : String) (r : Rel) : memStep m (.update k r) =
    if (Spec.get? ((m.recs r.name).getD []) k).isSome
    then (m.setRecs r.name (((m.recs r.name).getD []).map fun e => if e.1 = k then (k, r) else e), .ok)
    else (m, .notFound) := by
  rw [memStep]
  cases m.recs r.name with
  | none => rfl
  | some rs =>
    simp only [any_key]
    rfl

theorem memStep_delete (m : Mem) (k : String) (hk : memKeyOk k = true) : memStep m (.delete k) =
    match Spec.get? ((m.recs (memKeyName k)).getD []) k with
    | some r => (m.setRecs (memKeyName k) (((m.recs (memKeyName k)).getD []).filter (·.1 ≠ k)), .rel r)
    | none => (m, .notFound) := by
  simp only [memStep, hk, Bool.not_true, Bool.false_eq_true, if_false]
  cases m.recs (memKeyName k) with
  | none => rfl
  | some rs =>
    simp only [Option.getD_some, Spec.get?]
    cases rs.find? (·.1 = k) <;> rfl

end Helm.Storage
