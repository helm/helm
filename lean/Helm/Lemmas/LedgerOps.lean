/-
The four action programs on healthy storage, for every history: what a fault-free run leaves
(C01) and where a run with one failing cluster-side phase ends up (C03).
-/
import Helm.Lemmas.LedgerHealthy
namespace Helm.Ledger

/-- A fault-free rollback (no history limit) from any healthy state of the storage wrapper (the
nested rollback of an atomic upgrade starts from the state the failed upgrade left), on ANY history
with unique revisions: it reports success; every revision that was marked deployed is marked
superseded; a new revision, one above the highest, carries the content of the target revision and
is marked deployed; nothing else changes. -/
theorem rollbackOn_success (fl : RollbackFlags) (s0 : St) (l : Ledger) (hs0 : s0.ledger = l) (hd0 : s0.decs = [])
    (cur prevRec : Rec)
    (hdry : fl.dryRun = false) (hmax : fl.maxHistory = 0) (hnd : (revs l).Nodup)
    (hlast : last? l = some cur)
    (hprev : get? l (if fl.version = 0 then cur.rev - 1 else fl.version) = some prevRec) :
    (rollbackOn fl {} s0).2 = .success ∧
    (rollbackOn fl {} s0).1.ledger = supersedeDeployed l ++ [⟨cur.rev + 1, .deployed, prevRec.payload⟩] := by
  have hfresh := succ_last_not_mem hlast
  have hnd1 := nodup_append_fresh (r := ⟨cur.rev + 1, .pendingRollback, prevRec.payload⟩) hnd hfresh
  obtain ⟨s1, e1, H1⟩ := Healthy.create ⟨hs0, hd0⟩ (r := ⟨cur.rev + 1, .pendingRollback, prevRec.payload⟩) hfresh
  obtain ⟨s2, e2, H2⟩ := H1.hooks_last hfresh (if fl.disableHooks then 0 else fl.nHooks) .ok
  obtain ⟨s3, e3, H3⟩ := H2.hooks_last hfresh (if fl.disableHooks then 0 else fl.nHooks) .ok
  obtain ⟨s4, e4, H4⟩ := H3.supersede hnd1
  rw [supersedeDeployed_append_pending l (by simp)] at H4
  obtain ⟨s5, e5, H5⟩ := H4.update_last (r := ⟨cur.rev + 1, .deployed, prevRec.payload⟩)
    (by rw [revs_supersedeDeployed]; exact hfresh) rfl
  simp only [rollbackOn, hs0, hlast, hprev, hdry, hmax, storageCreate_zero, Bool.false_eq_true,
    if_false, e1, e2, e3, e4, e5, ite_self]
  exact ⟨trivial, H5.ledger⟩

/-- A fault-free uninstall without keep-history of a release that is not already uninstalled, from
any healthy state of the storage wrapper (the uninstall that an atomic install runs on failure starts
from the state the failure left): success, and no revision remains. -/
theorem uninstallOn_success_purges (fl : UninstallFlags) (s0 : St) (l : Ledger) (hs0 : s0.ledger = l) (hd0 : s0.decs = [])
    (rel : Rec)
    (hdry : fl.dryRun = false) (hkeep : fl.keepHistory = false) (hnd : (revs l).Nodup)
    (hlast : last? l = some rel) (hnu : rel.status ≠ .uninstalled) :
    (uninstallOn fl {} s0).2 = .success ∧ (uninstallOn fl {} s0).1.ledger = [] := by
  have hr : rel.rev ∈ revs l := mem_revs (last?_spec hlast).1
  obtain ⟨s1, l1, e1, H1, r1⟩ := Healthy.hooks_revs ⟨hs0, hd0⟩ { rel with status := .uninstalling } hr
    (if fl.disableHooks then 0 else fl.nHooks) .ok
  obtain ⟨s2, e2, H2⟩ := H1.update (r := { rel with status := .uninstalling }) (r1 ▸ hr)
  obtain ⟨s3, l3, e3, H3, r3⟩ := H2.hooks_revs { rel with status := .uninstalling } (by rw [revs_put, r1]; exact hr)
    (if fl.disableHooks then 0 else fl.nHooks) .ok
  obtain ⟨s4, e4, H4⟩ := H3.purgeAll (by rw [r3, revs_put, r1]; exact hnd)
  simp only [uninstallOn, hs0, hdry, hlast, hnu, hkeep, Bool.false_eq_true, if_false, Bool.not_false, if_true,
    e1, e2, e3, e4, ite_self, bne_self_eq_false, Bool.or_self]
  exact ⟨trivial, H4.ledger⟩

/-! ### upgrade -/

/-- A fault-free upgrade: everything as it was, except that the record built on is superseded and
the new one, one above the highest, is deployed. -/
theorem upgrade_success (fl : UpgradeFlags) (p : Nat) (l : Ledger) (lastRec cur : Rec)
    (hdry : fl.dryRun = false) (hmax : fl.maxHistory = 0) (hnd : (revs l).Nodup)
    (hlast : last? l = some lastRec) (hnp : lastRec.status.isPending = false)
    (hcur : currentOf l = some cur) :
    (upgrade fl {} {} p l).2 = .success ∧
    (upgrade fl {} {} p l).1.ledger =
      setStatus l cur.rev .superseded ++ [⟨lastRec.rev + 1, .deployed, p⟩] := by
  have hfresh := succ_last_not_mem hlast
  have hcm := currentOf_mem hcur
  obtain ⟨s1, e1, H1⟩ := (Healthy.init l).create (r := ⟨lastRec.rev + 1, .pendingUpgrade, p⟩) hfresh
  obtain ⟨s2, e2, H2⟩ := H1.hooks_last hfresh (if fl.disableHooks then 0 else fl.nHooks) .ok
  obtain ⟨s3, e3, H3⟩ := H2.hooks_last hfresh (if fl.disableHooks then 0 else fl.nHooks) .ok
  obtain ⟨s4, e4, H4⟩ := H3.update (r := { cur with status := .superseded }) (by simp [revs]; exact Or.inl ⟨cur, hcm, rfl⟩)
  rw [put_status_front hnd hcm hfresh] at H4
  obtain ⟨s5, e5, H5⟩ := H4.update_last (r := ⟨lastRec.rev + 1, .deployed, p⟩)
    (by rw [revs_setStatus]; exact hfresh) rfl
  simp only [upgrade, hlast, hnp, hcur, hdry, hmax, storageCreate_zero, Bool.false_eq_true, if_false,
    e1, e2, e3, e4, e5, ite_self]
  exact ⟨trivial, H5.ledger⟩

/-- the phase that fails -/
inductive FailAt where
  | preHook | resources | wait | postHook
  deriving Repr, DecidableEq

def FailAt.faults : FailAt → Faults
  | .preHook => { preHook := .fail }
  | .resources => { resources := .fail }
  | .wait => { wait := .fail }
  | .postHook => { postHook := .fail }

/-- hook phases only fail when there is a hook -/
def FailAt.needsHook : FailAt → Bool
  | .preHook | .postHook => true
  | _ => false

/-- the original release is re-recorded when the failure comes after the update started -/
def FailAt.rerecord : FailAt → Bool
  | .resources | .wait => true
  | _ => false

theorem FailAt.cleanup_ok (a : FailAt) : a.faults.cleanup = .ok := by cases a <;> rfl

theorem nHooks_ne_zero {disableHooks : Bool} {nHooks : Nat} (hd : disableHooks = false) (hn : 0 < nHooks) :
    (if disableHooks then 0 else nHooks) ≠ 0 := by
  rw [hd, if_neg Bool.false_ne_true]
  exact Nat.ne_of_gt hn

/-- Every failing phase leads to `failUpgradeOn`, from a state whose ledger is the history plus
the pending record. -/
theorem upgrade_reaches_fail (at_ : FailAt) (fl : UpgradeFlags) (fN : Faults) (p : Nat) (l : Ledger) (lastRec cur : Rec)
    (hdry : fl.dryRun = false) (hmax : fl.maxHistory = 0)
    (hhook : at_.needsHook = true → fl.disableHooks = false ∧ 0 < fl.nHooks)
    (hlast : last? l = some lastRec) (hnp : lastRec.status.isPending = false)
    (hcur : currentOf l = some cur) :
    ∃ s : St, s.ledger = l ++ [⟨lastRec.rev + 1, .pendingUpgrade, p⟩] ∧ s.decs = [] ∧
      upgrade fl at_.faults fN p l =
        failUpgradeOn fl at_.faults fN cur ⟨lastRec.rev + 1, .pendingUpgrade, p⟩ at_.rerecord s := by
  have hfresh := succ_last_not_mem hlast
  have hn0 := fun ha => nHooks_ne_zero (hhook ha).1 (hhook ha).2
  obtain ⟨s1, e1, H1⟩ := (Healthy.init l).create (r := ⟨lastRec.rev + 1, .pendingUpgrade, p⟩) hfresh
  obtain ⟨s2, e2, H2⟩ := H1.hooks_last hfresh (if fl.disableHooks then 0 else fl.nHooks) at_.faults.preHook
  obtain ⟨s3, e3, H3⟩ := H2.hooks_last hfresh (if fl.disableHooks then 0 else fl.nHooks) at_.faults.postHook
  cases at_ with
  | preHook =>
    refine ⟨s2, H2.ledger, H2.decs, ?_⟩
    simp only [FailAt.faults] at e2 ⊢
    simp only [upgrade, FailAt.rerecord, hlast, hnp, hcur, hdry, hmax, storageCreate_zero,
      Bool.false_eq_true, if_false, e1, e2, if_neg (hn0 rfl)]
  | resources | wait =>
    refine ⟨s2, H2.ledger, H2.decs, ?_⟩
    simp only [FailAt.faults] at e2 ⊢
    simp only [upgrade, FailAt.rerecord, hlast, hnp, hcur, hdry, hmax, storageCreate_zero,
      Bool.false_eq_true, if_false, e1, e2, ite_self]
  | postHook =>
    refine ⟨s3, H3.ledger, H3.decs, ?_⟩
    simp only [FailAt.faults] at e2 e3 ⊢
    simp only [upgrade, FailAt.rerecord, hlast, hnp, hcur, hdry, hmax, storageCreate_zero,
      Bool.false_eq_true, if_false, e1, e2, e3, ite_self, if_neg (hn0 rfl)]

/-- the first two writes of `failUpgradeOn` on a healthy storage: the ledger becomes the history
plus the failed record -/
theorem failUpgrade_marks (l : Ledger) (cur relP : Rec) (hnd : (revs l).Nodup) (hcm : cur ∈ l)
    (hnew : ∀ x ∈ l, x.rev < relP.rev) (rerecord : Bool) (s : St) (hsl : s.ledger = l ++ [relP]) (hsd : s.decs = []) :
    ∃ s3 : St, s3.ledger = l ++ [{ relP with status := .failed }] ∧ s3.decs = [] ∧
      ∀ (fl : UpgradeFlags) (f fN : Faults), failUpgradeOn fl f fN cur relP rerecord s =
        (if fl.cleanupOnFail && f.cleanup != .ok && rerecord then
          (s3, if f.cleanup = .crash then Outcome.crashed else .error)
        else if fl.atomic then
          let cands := s3.ledger.filter fun r => r.status = .superseded || r.status = .deployed
          if cands.isEmpty then (s3, .error)
          else
            let (s4, o) := rollbackOn { version := maxRev cands, disableHooks := fl.disableHooks, nHooks := fl.nHooks, maxHistory := 0 } fN s3
            (s4, if o = .crashed then .crashed else .error)
        else (s3, .error)) := by
  have hfresh : relP.rev ∉ revs l := by
    intro h
    obtain ⟨x, hx, e⟩ := List.mem_map.mp h
    have := hnew x hx
    omega
  have H : Healthy s (l ++ [relP]) := ⟨hsl, hsd⟩
  obtain ⟨s2, e2, H2⟩ : ∃ s2, (if rerecord then stUpdate s cur else (Dec.ok, s)) = (.ok, s2) ∧
      Healthy s2 (l ++ [relP]) := by
    cases rerecord
    · exact ⟨s, rfl, H⟩
    · obtain ⟨s2, e, H2⟩ := H.update (r := cur) (mem_revs (List.mem_append_left _ hcm))
      rw [put_of_mem (nodup_append_fresh hnd hfresh) (List.mem_append_left _ hcm)] at H2
      exact ⟨s2, e, H2⟩
  obtain ⟨s3, e3, H3⟩ := H2.update_last (r := { relP with status := .failed }) hfresh rfl
  exact ⟨s3, H3.ledger, H3.decs, fun fl f fN => by simp only [failUpgradeOn, e2, e3]⟩

/-! ### install, on a name without history -/

/-- Every failing phase leads to `failInstallOn`, from a state whose ledger is the pending record. -/
theorem install_reaches_fail (at_ : FailAt) (fl : InstallFlags) (fN : Faults) (p : Nat)
    (hdry : fl.dryRun = false) (hrep : fl.replace = false)
    (hhook : at_.needsHook = true → fl.disableHooks = false ∧ 0 < fl.nHooks) :
    ∃ s : St, s.ledger = [⟨1, .pendingInstall, p⟩] ∧ s.decs = [] ∧
      install fl at_.faults fN p [] = failInstallOn fl fN ⟨1, .pendingInstall, p⟩ s := by
  have hn0 := fun ha => nHooks_ne_zero (hhook ha).1 (hhook ha).2
  have hfresh : (⟨1, .pendingInstall, p⟩ : Rec).rev ∉ revs [] := by simp [revs]
  obtain ⟨s1, e1, H1⟩ := (Healthy.init []).create (r := ⟨1, .pendingInstall, p⟩) hfresh
  obtain ⟨s2, e2, H2⟩ := H1.hooks_last hfresh (if fl.disableHooks then 0 else fl.nHooks) at_.faults.preHook
  obtain ⟨s3, e3, H3⟩ := H2.hooks_last hfresh (if fl.disableHooks then 0 else fl.nHooks) at_.faults.postHook
  cases at_ with
  | preHook =>
    refine ⟨s2, H2.ledger, H2.decs, ?_⟩
    simp only [FailAt.faults] at e2 ⊢
    simp only [install, hdry, hrep, last?_nil, Bool.not_true, Bool.false_eq_true, if_false,
      e1, e2, if_neg (hn0 rfl)]
  | resources | wait =>
    refine ⟨s2, H2.ledger, H2.decs, ?_⟩
    simp only [FailAt.faults] at e2 ⊢
    simp only [install, hdry, hrep, last?_nil, Bool.not_true, Bool.false_eq_true, if_false,
      e1, e2, ite_self]
  | postHook =>
    refine ⟨s3, H3.ledger, H3.decs, ?_⟩
    simp only [FailAt.faults] at e2 e3 ⊢
    simp only [install, hdry, hrep, last?_nil, Bool.not_true, Bool.false_eq_true, if_false,
      e1, e2, e3, ite_self, if_neg (hn0 rfl)]

end Helm.Ledger
