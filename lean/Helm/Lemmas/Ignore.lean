/-
Lemmas about the .helmignore model: what `*` means in the glob matcher, evaluation of
negation-free rule sets, a directory is among the ancestors of what is below it.
-/
import Helm.Model.Ignore

namespace Helm.Ignore

/-- no `*` and no `?` -/
def Literal (p : List Char) : Prop := ∀ c ∈ p, c ≠ '*' ∧ c ≠ '?'

theorem starAny_iff (f : List Char → Bool) (n : List Char) :
    starAny f n = true ↔ ∃ pre suf, n = pre ++ suf ∧ '/' ∉ pre ∧ f suf = true := by
  induction n with
  | nil =>
    simp only [starAny]
    constructor
    · intro h; exact ⟨[], [], rfl, by simp, h⟩
    · rintro ⟨pre, suf, h, _, hf⟩
      rw [(List.append_eq_nil_iff.mp h.symm).2] at hf
      exact hf
  | cons c n ih =>
    simp only [starAny, Bool.or_eq_true, Bool.and_eq_true, bne_iff_ne, ne_eq, ih]
    constructor
    · rintro (h | ⟨hc, pre, suf, hn, hp, hf⟩)
      · exact ⟨[], c :: n, rfl, by simp, h⟩
      · exact ⟨c :: pre, suf, by simp [hn], by simp [hp, Ne.symm hc], hf⟩
    · rintro ⟨pre, suf, hn, hp, hf⟩
      cases pre with
      | nil => left; simp at hn; rw [hn]; exact hf
      | cons a pre' =>
        right
        simp only [List.cons_append, List.cons.injEq] at hn
        simp only [List.mem_cons, not_or] at hp
        exact ⟨by rw [hn.1]; exact Ne.symm hp.1, pre', suf, hn.2, hp.2, hf⟩

/-- the rule applies to this kind of entry and matches it -/
def hits (r : Rule) (path : List Char) (isDir : Bool) : Bool := (!r.mustDir || isDir) && matchRule r path

theorem ignoreLoop_positive (path : List Char) (isDir : Bool) (rules : List Rule)
    (hp : ∀ r ∈ rules, r.negate = false) :
    ignoreLoop path isDir rules = rules.any (fun r => hits r path isDir) := by
  induction rules with
  | nil => rfl
  | cons r rs ih =>
    have h1 := hp r List.mem_cons_self
    have ih' := ih (fun x hx => hp x (List.mem_cons_of_mem _ hx))
    unfold ignoreLoop
    simp only [h1, Bool.false_eq_true, if_false, List.any_cons, hits, ih']
    cases r.mustDir <;> cases isDir <;> cases matchRule r path <;> simp

theorem ancestorsAux_mem (acc d rest : List Char) :
    (acc.reverse ++ d) ∈ ancestorsAux acc (d ++ '/' :: rest) := by
  induction d generalizing acc with
  | nil =>
    simp only [List.nil_append, List.append_nil, ancestorsAux, if_true]
    exact List.mem_cons_self
  | cons c d ih =>
    simp only [List.cons_append, ancestorsAux]
    have := ih (c :: acc)
    simp only [List.reverse_cons, List.append_assoc, List.singleton_append] at this
    split
    · exact List.mem_cons_of_mem _ this
    · exact this

/-- every directory above a path is among its ancestors -/
theorem mem_ancestors (d rest : List Char) : d ∈ ancestors (d ++ '/' :: rest) := by
  have := ancestorsAux_mem [] d rest
  simpa [ancestors] using this

/-- What is loaded is neither ignored itself nor below an ignored directory. -/
theorem loaded_iff (rules : List Rule) (p : List Char) :
    loaded rules p = true ↔ ignore rules p false = false ∧ ∀ a ∈ ancestors p, ignore rules a true = false := by
  unfold loaded
  simp only [Bool.and_eq_true, List.all_eq_true, Bool.not_eq_true']
  exact And.comm

theorem loadDir_sound (rules : List Rule) (files : List (List Char)) (p : List Char) :
    p ∈ loadDir rules files ↔ p ∈ files ∧ loaded rules p = true :=
  List.mem_filter

end Helm.Ignore
