import Helm.Model.KindOrder
/-! `rank` is the index of the first occurrence; `lessByKind` is a strict weak order, hence
`leByKind` a total preorder, and it ties no two different kinds. -/
namespace Helm.KindOrder

theorem getElem?_of_rank {o : List String} {a : String} {i : Nat} (h : rank o a = some i) :
    o[i]? = some a := by
  induction o generalizing i with
  | nil => simp [rank] at h
  | cons x xs ih =>
    simp only [rank] at h
    split at h
    · cases h
      simp [*]
    · cases hr : rank xs a with
      | none => simp [hr] at h
      | some j =>
        simp only [hr, Option.map_some, Option.some.injEq] at h
        subst h
        simpa using ih hr

theorem rank_isSome {o : List String} {k : String} : (rank o k).isSome ↔ k ∈ o := by
  induction o with
  | nil => simp [rank]
  | cons x xs ih =>
    simp only [rank, List.mem_cons]
    split
    · simp [*]
    · rename_i hx
      simp [ih, Ne.symm hx]

theorem leByKind_total (o : List String) (a b : String) :
    (leByKind o a b || leByKind o b a) = true := by
  unfold leByKind lessByKind
  cases ha : rank o a <;> cases hb : rank o b <;> simp
  · exact String.le_total a b
  · omega

theorem leByKind_trans (o : List String) (a b c : String) :
    leByKind o a b = true → leByKind o b c = true → leByKind o a c = true := by
  unfold leByKind lessByKind
  cases ha : rank o a <;> cases hb : rank o b <;> cases hc : rank o c <;> simp
  · intro h1 h2
    exact String.le_trans h1 h2
  · omega

/-- Same kind ⇒ equivalent, so a stable sort keeps the original relative order. -/
theorem leByKind_refl (o : List String) (a : String) : leByKind o a a = true := by
  simpa using leByKind_total o a a

/-- Two kinds are equivalent for the order only when they are the same kind:
the order is a strict *total* order on kinds (no two different kinds tie). -/
theorem leByKind_antisymm (o : List String) (a b : String) :
    leByKind o a b = true → leByKind o b a = true → a = b := by
  unfold leByKind lessByKind
  cases ha : rank o a <;> cases hb : rank o b <;> simp
  · intro h1 h2
    exact String.le_antisymm h1 h2
  · intro h1 h2
    rename_i i j
    have hij : i = j := by omega
    subst hij
    exact Option.some.inj ((getElem?_of_rank ha).symm.trans (getElem?_of_rank hb))

end Helm.KindOrder
