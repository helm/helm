import Helm.Model.Values
/-! Laws of tables read through `get?`; the loops of MergeMaps, coalesceTables and coalesceGlobals as
one fold with a per-key combiner; what they do along a path. -/
namespace Helm.Values

/-- List-like induction for tables (the `induction` tactic refuses mutual inductives). -/
theorem Tbl.ind {motive : Tbl → Prop} (nil : motive .nil)
    (cons : ∀ k v r, motive r → motive (.cons k v r)) : ∀ t, motive t
  | .nil => nil
  | .cons k v r => cons k v r (Tbl.ind nil cons r)

namespace Tbl

@[simp] theorem get?_nil (x : String) : Tbl.nil.get? x = none := rfl

theorem get?_cons (k : String) (v : Val) (r : Tbl) (x : String) :
    (Tbl.cons k v r).get? x = if k = x then some v else r.get? x := rfl

theorem get?_set (t : Tbl) (k x : String) (v : Val) :
    (t.set k v).get? x = if k = x then some v else t.get? x := by
  induction t using Tbl.ind with
  | nil => rfl
  | cons k' w r ih =>
    by_cases hk : k' = k
    · subst hk
      simp only [set, get?, if_true]
      split <;> rfl
    · simp only [set, get?, hk, if_false, ih]
      split
      · rename_i hx
        rw [if_neg (fun h => hk (hx.trans h.symm))]
      · rfl

theorem get?_set_same (t : Tbl) (k : String) (v : Val) : (t.set k v).get? k = some v := by
  rw [get?_set, if_pos rfl]

theorem get?_set_other (t : Tbl) (k x : String) (v : Val) (h : k ≠ x) :
    (t.set k v).get? x = t.get? x := by
  rw [get?_set, if_neg h]

theorem get?_erase (t : Tbl) (k x : String) :
    (t.erase k).get? x = if k = x then none else t.get? x := by
  induction t using Tbl.ind with
  | nil => simp [erase]
  | cons k' w r ih =>
    by_cases hk : k' = k
    · subst hk
      simp only [erase, get?, if_true, ih]
      split <;> rfl
    · simp only [erase, get?, hk, if_false, ih]
      split
      · rename_i hx
        rw [if_neg (fun h => hk (hx.trans h.symm))]
      · rfl

theorem set_get? (t : Tbl) (k : String) (v : Val) (h : t.get? k = some v) : t.set k v = t := by
  induction t using Tbl.ind with
  | nil => cases h
  | cons k' w r ih =>
    simp only [get?] at h
    simp only [set]
    split at h
    · rename_i hk
      cases h
      rw [if_pos hk]
    · rename_i hk
      rw [if_neg hk, ih h]

/-- `m[k] = v` or `delete(m, k)`. -/
def put (t : Tbl) (k : String) : Option Val → Tbl
  | some v => t.set k v
  | none => t.erase k

theorem get?_put (t : Tbl) (k x : String) (o : Option Val) :
    (t.put k o).get? x = if k = x then o else t.get? x := by
  cases o with
  | none => exact get?_erase t k x
  | some v => exact get?_set t k x v

theorem get?_none_of_not_mem (t : Tbl) (x : String) (h : x ∉ t.keys) : t.get? x = none := by
  induction t using Tbl.ind with
  | nil => rfl
  | cons k v r ih =>
    simp only [keys, List.mem_cons, not_or] at h
    rw [get?_cons, if_neg (Ne.symm h.1), ih h.2]

end Tbl

/-! ### well-formedness: unique keys at every level (what a decoded YAML/JSON map satisfies) -/

mutual
  def Val.WF : Val → Prop
    | .list l => l.WF
    | .tbl t => t.WF
    | _ => True
  def VList.WF : VList → Prop
    | .nil => True
    | .cons v r => v.WF ∧ r.WF
  def Tbl.WF : Tbl → Prop
    | .nil => True
    | .cons k v r => k ∉ r.keys ∧ v.WF ∧ r.WF
end

theorem Tbl.WF.get {t : Tbl} (h : t.WF) {k : String} {v : Val} (hg : t.get? k = some v) : v.WF := by
  induction t using Tbl.ind with
  | nil => cases hg
  | cons k' w r ih =>
    rw [Tbl.get?_cons] at hg
    split at hg
    · cases hg
      exact h.2.1
    · exact ih h.2.2 hg

/-- The common shape of three `for k, v := range src` loops of the Go code: `loader.MergeMaps`
(`mergeInto`), `coalesceTablesFullKey` (`coalesceTables`) and `coalesceGlobals` (`globalsLoop`).
Each binding `k ↦ v` of the source rewrites the accumulator at `k` alone, to `f acc[k] v`
(`none`: the key is deleted). -/
def foldKeys (f : Option Val → Val → Option Val) (acc : Tbl) : Tbl → Tbl
  | .nil => acc
  | .cons k v rest => foldKeys f (acc.put k (f (acc.get? k) v)) rest

theorem get?_foldKeys (f : Option Val → Val → Option Val) (acc src : Tbl) (hs : src.WF)
    (x : String) :
    (foldKeys f acc src).get? x =
      match src.get? x with
      | none => acc.get? x
      | some v => f (acc.get? x) v := by
  induction src using Tbl.ind generalizing acc with
  | nil => rfl
  | cons k v rest ih =>
    rw [foldKeys, ih _ hs.2.2, Tbl.get?_put, Tbl.get?_cons]
    by_cases hkx : k = x
    · subst hkx
      -- the later bindings are silent about `k`, so what was written at `k` is what is read
      rw [Tbl.get?_none_of_not_mem rest k hs.1, if_pos rfl, if_pos rfl]
    · rw [if_neg hkx, if_neg hkx]

/-- What `MergeMaps` stores at a key of `b`: recursive merge for table-on-table, else `b`'s value. -/
def mergeVal (o : Option Val) (bv : Val) : Val :=
  match bv, o with
  | .tbl vt, some (.tbl bt) => .tbl (mergeInto bt vt)
  | v, _ => v

theorem mergeInto_eq_foldKeys (out b : Tbl) :
    mergeInto out b = foldKeys (fun o v => some (mergeVal o v)) out b := by
  induction b using Tbl.ind generalizing out with
  | nil => rfl
  | cons k v rest ih =>
    rw [foldKeys, ← ih]
    cases v with
    | tbl vt =>
      rw [mergeInto]
      cases out.get? k with
      | none => rfl
      | some w => cases w <;> rfl
    | _ => rfl

theorem get?_mergeInto (out b : Tbl) (hb : b.WF) (x : String) :
    (mergeInto out b).get? x =
      match b.get? x with
      | none => out.get? x
      | some v => some (mergeVal (out.get? x) v) := by
  rw [mergeInto_eq_foldKeys]
  exact get?_foldKeys _ out b hb x

theorem mergeVal_nontable (o : Option Val) (v : Val) (h : v.isTable = false) : mergeVal o v = v := by
  cases v <;> first | rfl | cases h

theorem mergeVal_tbl (o : Option Val) (bt : Tbl) :
    mergeVal o (.tbl bt) = .tbl (match o with
      | some (.tbl at') => mergeInto at' bt
      | _ => bt) := by
  cases o with
  | none => rfl
  | some w => cases w <;> rfl

/-- What `coalesceTablesFullKey` leaves at a key that `src` binds to `sv`: the source value where
`dst` is silent, nothing where `dst` has a null (unless `merge`), the coalesced table for
table-on-table, else `dst`'s value. -/
def coalesceVal (merge : Bool) (o : Option Val) (sv : Val) : Option Val :=
  match o with
  | none => some sv
  | some dv =>
    if !merge && dv.isNull then none
    else match sv, dv with
      | .tbl st, .tbl dt => some (.tbl (coalesceTables merge dt st))
      | _, _ => some dv

theorem coalesceTables_eq_foldKeys (merge : Bool) (dst src : Tbl) :
    coalesceTables merge dst src = foldKeys (coalesceVal merge) dst src := by
  induction src using Tbl.ind generalizing dst with
  | nil => rfl
  | cons k sv rest ih =>
    rw [foldKeys, ← ih, coalesceTables]
    cases hd : dst.get? k with
    | none => rfl
    | some dv =>
      simp only [coalesceVal]
      split
      · rfl
      · split
        · rfl
        · -- `dst` is left as it is: the same as writing `dv` back
          split
          · rename_i h
            exact (h _ _ rfl rfl).elim
          · rw [Tbl.put, Tbl.set_get? dst k dv hd]

theorem get?_coalesceTables (merge : Bool) (dst src : Tbl) (hs : src.WF) (x : String) :
    (coalesceTables merge dst src).get? x =
      match src.get? x with
      | none => dst.get? x
      | some sv => coalesceVal merge (dst.get? x) sv := by
  rw [coalesceTables_eq_foldKeys]
  exact get?_foldKeys _ dst src hs x

theorem coalesceVal_leaf (merge : Bool) (dv sv : Val) (h : dv.isTable = false)
    (hn : merge = true ∨ dv.isNull = false) : coalesceVal merge (some dv) sv = some dv := by
  have hcond : (!merge && dv.isNull) = false := by
    rcases hn with hm | hnull
    · rw [hm]
      rfl
    · rw [hnull, Bool.and_false]
  simp only [coalesceVal, hcond, Bool.false_eq_true, if_false]
  split
  · cases h
  · rfl

theorem coalesceVal_tbl (merge : Bool) (dt : Tbl) (sv : Val) :
    coalesceVal merge (some (.tbl dt)) sv = some (.tbl (match sv with
      | .tbl st => coalesceTables merge dt st
      | _ => dt)) := by
  simp only [coalesceVal, Val.isNull, Bool.and_false, Bool.false_eq_true, if_false]
  cases sv <;> rfl

/-- What the loop of `coalesceGlobals` leaves at a key that the parent's globals bind to `v`
(`o`: what the subchart's own globals hold there). -/
def globalVal (o : Option Val) (v : Val) : Option Val :=
  match v with
  | .tbl vt =>
    match o with
    | none => some (.tbl vt)
    | some (.tbl dm) => some (.tbl (coalesceTables true vt dm))
    | some w => some w
  | v =>
    match o with
    | some (.tbl t) => some (.tbl t)
    | _ => some v

theorem globalsLoop_eq_foldKeys (dg sg : Tbl) : globalsLoop dg sg = foldKeys globalVal dg sg := by
  induction sg using Tbl.ind generalizing dg with
  | nil => rfl
  | cons k v rest ih =>
    rw [foldKeys, ← ih, globalsLoop.eq_def]
    dsimp only
    -- every shape of the two values: the two sides compute the same, or `dg` is left as it is,
    -- which is the same as writing back what it holds
    cases hd : dg.get? k with
    | none => cases v <;> rfl
    | some w =>
      cases w <;> cases v <;>
        first | rfl | exact congrArg (globalsLoop · rest) (Tbl.set_get? dg k _ hd).symm

theorem get?_globalsLoop (dg sg : Tbl) (hs : sg.WF) (x : String) :
    (globalsLoop dg sg).get? x =
      match sg.get? x with
      | none => dg.get? x
      | some v => globalVal (dg.get? x) v := by
  rw [globalsLoop_eq_foldKeys]
  exact get?_foldKeys _ dg sg hs x

theorem globalVal_leaf (o : Option Val) (v : Val) (hv : v.isTable = false)
    (ho : ∀ t, o ≠ some (.tbl t)) : globalVal o v = some v := by
  cases v with
  | tbl t => cases hv
  | _ =>
    dsimp only [globalVal]
    split
    · exact absurd rfl (ho _)
    · rfl

/-! ### along a path -/

theorem lookupPath_cons (t : Tbl) (k : String) {p : List String} (hp : p ≠ []) :
    lookupPath t (k :: p) = match t.get? k with
      | some (.tbl t') => lookupPath t' p
      | _ => none :=
  lookupPath.eq_3 t k p hp

/-- `b` says nothing about path `p` (no binding along it). -/
def untouched : Tbl → List String → Prop
  | _, [] => True
  | b, [k] => b.get? k = none
  | b, k :: p => match b.get? k with
    | none => True
    | some (.tbl bt) => untouched bt p
    | some _ => False

theorem untouched_lookup_none (b : Tbl) (p : List String) (hp : p ≠ []) (hu : untouched b p) :
    lookupPath b p = none := by
  fun_induction untouched b p with
  | case1 => exact absurd rfl hp
  | case2 b k => exact hu
  | case3 b k p hp' hbk => rw [lookupPath_cons b k hp', hbk]
  | case4 b k p hp' bt hbk ih =>
    rw [lookupPath_cons b k hp', hbk]
    exact ih hp' hu
  | case5 => exact hu.elim

/-- The destination (higher-precedence side) wins at every path where it has a leaf that is not
an explicit null (a null leaf in coalesce mode deletes; in merge mode it is kept). -/
theorem coalesce_dst_wins (merge : Bool) (dst src : Tbl) (hs : src.WF) (p : List String) (v : Val)
    (h : lookupPath dst p = some v) (hv : v.isTable = false)
    (hn : merge = true ∨ v.isNull = false) :
    lookupPath (coalesceTables merge dst src) p = some v := by
  fun_induction lookupPath dst p generalizing src with
  | case1 => cases h
  | case2 dst k =>
    rw [lookupPath, get?_coalesceTables merge dst src hs k, h]
    cases src.get? k with
    | none => rfl
    | some sv => exact coalesceVal_leaf merge v sv hv hn
  | case3 dst k p hp dt hdk ih =>
    rw [lookupPath_cons _ k hp, get?_coalesceTables merge dst src hs k, hdk]
    cases hsk : src.get? k with
    | none => exact h
    | some sv =>
      simp only [coalesceVal_tbl]
      split
      · exact ih _ (hs.get hsk) h
      · exact h
  | case4 => cases h

end Helm.Values
