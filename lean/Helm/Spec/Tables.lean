/-
Hand-written expectations for the facts regenerated into Helm/Gen/Tables.lean.
A property theorem `Gen.x = Spec.x` (by `rfl`: both sides are literals) is re-checked at every run; a changed
table in /repo breaks that obligation.
-/
namespace Helm.Spec

def installOrder : List String := ["PriorityClass", "Namespace", "NetworkPolicy", "ResourceQuota", "LimitRange", "PodSecurityPolicy", "PodDisruptionBudget", "ServiceAccount", "Secret", "SecretList", "ConfigMap", "StorageClass", "PersistentVolume", "PersistentVolumeClaim", "CustomResourceDefinition", "ClusterRole", "ClusterRoleList", "ClusterRoleBinding", "ClusterRoleBindingList", "Role", "RoleList", "RoleBinding", "RoleBindingList", "Service", "DaemonSet", "Pod", "ReplicationController", "ReplicaSet", "Deployment", "HorizontalPodAutoscaler", "StatefulSet", "Job", "CronJob", "IngressClass", "Ingress", "APIService", "MutatingWebhookConfiguration", "ValidatingWebhookConfiguration"]

def uninstallOrder : List String := ["ValidatingWebhookConfiguration", "MutatingWebhookConfiguration", "APIService", "Ingress", "IngressClass", "Service", "CronJob", "Job", "StatefulSet", "HorizontalPodAutoscaler", "Deployment", "ReplicaSet", "ReplicationController", "Pod", "DaemonSet", "RoleBindingList", "RoleBinding", "RoleList", "Role", "ClusterRoleBindingList", "ClusterRoleBinding", "ClusterRoleList", "ClusterRole", "CustomResourceDefinition", "PersistentVolumeClaim", "PersistentVolume", "StorageClass", "ConfigMap", "SecretList", "Secret", "ServiceAccount", "PodDisruptionBudget", "PodSecurityPolicy", "LimitRange", "ResourceQuota", "NetworkPolicy", "Namespace", "PriorityClass"]

/-- annotation word ↦ event, sorted by word. -/
def hookEvents : List (String × String) := [("post-delete", "post-delete"), ("post-install", "post-install"), ("post-rollback", "post-rollback"), ("post-upgrade", "post-upgrade"), ("pre-delete", "pre-delete"), ("pre-install", "pre-install"), ("pre-rollback", "pre-rollback"), ("pre-upgrade", "pre-upgrade"), ("test", "test"), ("test-success", "test")]

end Helm.Spec

namespace Helm.Spec
/-- Order in which `Options.MergeValues` applies the value-flag families (later wins):
-f files < --set-json < --set < --set-string < --set-file < --set-literal. -/
def valueFlagOrder : List String := ["ValueFiles", "JSONValues", "Values", "StringValues", "FileValues", "LiteralValues"]
end Helm.Spec

namespace Helm.Spec
/-- functions removed from the sprig map: the only ones that read the process environment -/
def sprigDeleted : List String := ["env", "expandenv"]
/-- functions Helm adds; classification: all pure except `lookup` (cluster) -/
def extraFuncs : List String := ["fromJson", "fromJsonArray", "fromToml", "fromYaml", "fromYamlArray", "include", "lookup", "required", "toJson", "toToml", "toYaml", "toYamlPretty", "tpl"]
end Helm.Spec
