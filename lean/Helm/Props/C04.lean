/-
C04  Every value comes from the highest-precedence source that defines it.
Property theorems only.
-/
import Helm.Model.Values
import Helm.Model.Strvals
import Helm.Model.Options
import Helm.Lemmas.Values
import Helm.Lemmas.Strvals
import Helm.Lemmas.StrvalsPath
import Helm.Spec.Tables

namespace Helm.Props.C04
open Helm.Values Helm.Strvals Helm.Options

/-! ## 1. Value files: `MergeMaps(a, b)` -- the later file wins, maps merge key by key -/

/-- Key-by-key refinement of `MergeMaps`: where `b` is silent `a`'s binding stays; where both bind
a table the tables merge recursively; otherwise `b`'s value (scalar, list, null or table)
replaces `a`'s. -/
theorem mergeMaps_key (a b : Tbl) (hb : b.WF) (x : String) :
    (mergeMaps a b).get? x =
      match b.get? x with
      | none => a.get? x
      | some (.tbl bt) =>
        (match a.get? x with
         | some (.tbl at') => some (.tbl (mergeMaps at' bt))
         | _ => some (.tbl bt))
      | some v => some v := by
  unfold mergeMaps
  rw [get?_mergeInto a b hb x]
  cases b.get? x with
  | none => rfl
  | some v =>
    cases v <;> simp only [mergeVal]
    cases a.get? x with
    | none => rfl
    | some av => cases av <;> rfl

/-- At every path where the later file has a scalar / list / null, that value is the result. -/
theorem later_file_wins (a b : Tbl) (hb : b.WF) (p : List String) (v : Val)
    (h : lookupPath b p = some v) (hv : v.isTable = false) :
    lookupPath (mergeMaps a b) p = some v := by
  unfold mergeMaps
  fun_induction lookupPath b p generalizing a with
  | case1 => cases h
  | case2 b k =>
    rw [lookupPath, get?_mergeInto a b hb k, h]
    exact congrArg some (mergeVal_nontable _ v hv)
  | case3 b k p hp bt hbk ih =>
    rw [lookupPath_cons _ k hp, get?_mergeInto a b hb k, hbk]
    simp only [mergeVal_tbl]
    -- below `k` the result holds `bt`, merged into `a`'s table if `a` has one there
    split
    · exact ih _ (hb.get hbk) h
    · exact h
  | case4 => cases h

/-- At every path the later file says nothing about, the earlier file's value stays. -/
theorem earlier_file_kept (a b : Tbl) (hb : b.WF) (p : List String) (h : untouched b p) :
    lookupPath (mergeMaps a b) p = lookupPath a p := by
  unfold mergeMaps
  fun_induction untouched b p generalizing a with
  | case1 => rfl
  | case2 b k => rw [lookupPath, lookupPath, get?_mergeInto a b hb k, h]
  | case3 b k p hp hbk =>
    rw [lookupPath_cons _ k hp, lookupPath_cons _ k hp, get?_mergeInto a b hb k, hbk]
  | case4 b k p hp bt hbk ih =>
    rw [lookupPath_cons _ k hp, lookupPath_cons _ k hp, get?_mergeInto a b hb k, hbk]
    simp only [mergeVal_tbl]
    split
    · exact ih _ (hb.get hbk) h
    · -- `a` has no table at `k`: nothing below it on either side
      rw [untouched_lookup_none bt p hp h]
  | case5 => exact h.elim

/-- Any number of `-f` files: a leaf of the last file wins over everything before it. -/
theorem last_of_many_files_wins (base : Tbl) (fs : List Tbl) (f : Tbl) (hf : f.WF)
    (p : List String) (v : Val) (h : lookupPath f p = some v) (hv : v.isTable = false) :
    lookupPath ((fs ++ [f]).foldl mergeMaps base) p = some v := by
  rw [List.foldl_append]
  exact later_file_wins _ f hf p v h hv

/-- ... and a value survives any number of later files that do not mention its path. -/
theorem value_survives_silent_files (base : Tbl) (fs : List Tbl) (p : List String)
    (hfs : ∀ f ∈ fs, f.WF ∧ untouched f p) :
    lookupPath (fs.foldl mergeMaps base) p = lookupPath base p := by
  induction fs generalizing base with
  | nil => rfl
  | cons f fs ih =>
    simp only [List.foldl_cons]
    rw [ih (mergeMaps base f) (fun g hg => hfs g (List.mem_cons_of_mem _ hg))]
    exact earlier_file_kept base f (hfs f List.mem_cons_self).1 p (hfs f List.mem_cons_self).2

/-! ## 2. Coalescing: destination (user / parent) wins over source (defaults), null deletes -/

/-- Key-by-key refinement of `coalesceTablesFullKey(dst, src, merge)`. -/
theorem coalesce_key (merge : Bool) (dst src : Tbl) (hs : src.WF) (x : String) :
    (coalesceTables merge dst src).get? x =
      match src.get? x with
      | none => dst.get? x
      | some sv =>
        match dst.get? x with
        | none => some sv
        | some dv =>
          if !merge && dv.isNull then none
          else match sv, dv with
            | .tbl st, .tbl dt => some (.tbl (coalesceTables merge dt st))
            | _, _ => some dv :=
  get?_coalesceTables merge dst src hs x

/-- The higher-precedence side wins at every path where it has a non-null leaf. -/
theorem higher_precedence_wins (merge : Bool) (dst src : Tbl) (hs : src.WF) (p : List String)
    (v : Val) (h : lookupPath dst p = some v) (hv : v.isTable = false)
    (hn : merge = true ∨ v.isNull = false) :
    lookupPath (coalesceTables merge dst src) p = some v :=
  coalesce_dst_wins merge dst src hs p v h hv hn

/-- An explicit null over a default removes the key (coalesce mode) ... -/
theorem null_removes_default (dst src : Tbl) (hs : src.WF) (x : String) (sv : Val)
    (hd : dst.get? x = some .null) (hsrc : src.get? x = some sv) :
    (coalesceTables false dst src).get? x = none := by
  rw [coalesce_key false dst src hs x, hsrc, hd]; rfl

/-- ... and is preserved in merge mode (`MergeTables`, used while values are still being assembled). -/
theorem null_kept_when_merging (dst src : Tbl) (hs : src.WF) (x : String) (sv : Val)
    (hd : dst.get? x = some .null) (hsrc : src.get? x = some sv) :
    (coalesceTables true dst src).get? x = some .null := by
  rw [coalesce_key true dst src hs x, hsrc, hd]
  cases sv <;> rfl

/-- Defaults fill exactly the keys the higher-precedence side does not bind. -/
theorem default_fills_gap (merge : Bool) (dst src : Tbl) (hs : src.WF) (x : String)
    (hd : dst.get? x = none) : (coalesceTables merge dst src).get? x = src.get? x := by
  rw [coalesce_key merge dst src hs x, hd]
  cases src.get? x <;> rfl

/-! ## 3. Flag families are applied in the documented order -/

/-- Regenerated from options.go at every run: files, then --set-json, --set, --set-string,
--set-file, --set-literal; every later application overrides (`mergeValues` below). -/
theorem valueFlagOrder_is_spec : Helm.Gen.valueFlagOrder = Helm.Spec.valueFlagOrder := rfl

/-- `MergeValues` is the composition, in that order, of: fold of `MergeMaps` over the files and
JSON objects, then the set expressions of each family applied one after the other to the same map. -/
theorem mergeValues_order (o : Opts) :
    mergeValues o =
      ((applySets .typed o.set ((o.json.foldl mergeMaps (o.files.foldl mergeMaps Tbl.nil)))).bind fun b =>
       (applySets .string o.setString b).bind fun b =>
       (applySets (.file o.fileContents) o.setFile b).bind fun b =>
       applySets .literal o.setLiteral b) := rfl

/-! ## 4. `--set`: parser limits and totality -/

theorem limits_are_spec : Helm.Gen.maxIndex = 65536 ∧ Helm.Gen.maxNestedNameLevel = 30 := ⟨rfl, rfl⟩

/-- No input makes the parser crash: the only panic sites (type assertions on existing values)
are all under the `recover` of `key`. -/
theorem set_never_panics (m : Mode) (s : Str) (dest : Tbl) :
    (parseInto m s dest).2 ≠ some .panic :=
  parseInto_no_panic m s dest

/-- Indexes beyond the limit are rejected, those within are accepted. -/
theorem index_limit (l : VList) (i : Int) (v : Val) :
    (setIndex l i v).toOption.isSome ↔ (0 ≤ i ∧ i ≤ 65536) := by
  unfold setIndex
  have : (Helm.Gen.maxIndex : Int) = 65536 := rfl
  rw [this]
  by_cases h1 : i < 0 <;> by_cases h2 : i > 65536 <;> simp [h1, h2, Except.toOption] <;> omega

/-! ## 5. `--set` / `--set-string`: an expression changes exactly the path it names -/

/-- Round trip of the documented escaping, for **every** key path (segments are arbitrary
non-empty rune strings: dots, commas, equals signs, brackets, braces, backslashes, spaces,
unicode ...) and every value string: parsing `k1.k2.….kn=v`, each part rendered with the
backslash escaping, stores exactly the value at exactly that path of the destination map.
`--set-string` stores the string; `--set` stores `typedVal v`.
Guards (each is what the real parser rejects otherwise): at most 31 segments
(MaxNestedNameLevel + 1); every proper prefix of the path is absent or a map in `dest`. -/
theorem set_roundtrip (m : Mode) (hm : m = .typed ∨ m = .string) (ks : List Str) (v : Str)
    (dest : Tbl) (hks : ks ≠ []) (hne : ∀ k ∈ ks, k ≠ [])
    (hlen : ks.length ≤ Helm.Gen.maxNestedNameLevel + 1) (hc : compat ks dest) :
    parseInto m (pathExpr ks v) dest = (setPath ks dest (reader m v), none) := by
  unfold parseInto
  have hk := key_path m hm v ks ((pathExpr ks v).length + 1) dest 0 hks hne
    (by have := pathExpr_length ks v; omega) (by omega) hc
  rw [show (pathExpr ks v).length + 2 = ((pathExpr ks v).length + 1) + 1 from rfl, parseLoop]
  simp only [hk]
  -- an empty value makes the one `key` call end at EOF; otherwise a second call finds EOF at once
  by_cases hv : v = []
  · simp [hv]
  · simp only [hv, if_false]
    rw [parseLoop]
    simp [key_eof]

/-- premises are satisfiable by a non-trivial state -/
example : compat [['a'], ['.', 'b']] (.cons "a" (.tbl (.cons "x" .null .nil)) .nil) := by
  simp [compat, Tbl.get?]

/-- After the parse the named path holds the value ... -/
theorem set_hits_path (ks : List Str) (t : Tbl) (v : Val) (hks : ks ≠ []) :
    lookupStr (setPath ks t v) ks = some v := by
  fun_induction setPath ks t v with
  | case1 => exact absurd rfl hks
  | case2 k t v => exact Tbl.get?_set_same _ _ _
  | case3 k p t v hp ih =>
    rw [lookupStr, List.map_cons, lookupPath_cons _ _ (mt List.map_eq_nil_iff.mp hp), Tbl.get?_set_same]
    exact ih hp

/-- ... and every path that is neither a prefix nor an extension of it reads as before. -/
theorem set_frame (ks q : List Str) (t : Tbl) (v : Val) (hd : diverge ks q) (hc : compat ks t) :
    lookupStr (setPath ks t v) q = lookupStr t q := by
  fun_induction diverge ks q generalizing t with
  | case2 => exact hd.elim
  | case1 k ks x q ih =>
    rcases hd with hkx | ⟨rfl, hd⟩
    · -- parted here: the write is at another key
      obtain ⟨w, hw⟩ := setPath_cons k ks t v
      rw [hw]
      exact lookupPath_set_other _ _ _ w _ (fun e => hkx (String.ofList_injective e))
    · -- same key: both paths go on below it, so both sides read the map under `k`
      cases ks with
      | nil => exact hd.elim
      | cons k' p' =>
        cases q with
        | nil => exact hd.elim
        | cons y q' =>
          have hq : (y :: q').map String.ofList ≠ [] := List.cons_ne_nil _ _
          rw [setPath_cons_cons, lookupStr, lookupStr, List.map_cons, lookupPath_child _ _ hq,
            lookupPath_child _ _ hq, child_set]
          exact ih _ hd (compat_child k k' p' t hc).2

/-- `--set-string` never converts. -/
theorem set_string_keeps_text (v : Str) : reader .string v = .str (String.ofList v) := rfl

/-- `--set` type rules on concrete literals (tests of the `typedVal` model, labelled as tests). -/
example : typedVal "true".toList false = .bool true ∧ typedVal "FALSE".toList false = .bool false ∧
    typedVal "Null".toList false = .null ∧ typedVal "0".toList false = .num "0" ∧
    typedVal "007".toList false = .str "007" ∧ typedVal "12".toList false = .num "12" ∧
    typedVal "-5".toList false = .num "-5" ∧ typedVal "1.5".toList false = .str "1.5" ∧
    typedVal "9223372036854775808".toList false = .str "9223372036854775808" := by
  refine ⟨?_, ?_, ?_, ?_, ?_, ?_, ?_, ?_, ?_⟩ <;> rfl

end Helm.Props.C04
