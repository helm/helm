/-
C08  Every rendered document is applied exactly once, in dependency order.
-/
import Helm.Model.Manifest
import Helm.Model.Barrier
import Helm.Lemmas.KindOrder
import Helm.Lemmas.Manifest
import Helm.Lemmas.Barrier
import Helm.Spec.Tables

namespace Helm.Props.C08
open Helm.KindOrder Helm.Manifest Helm.Barrier

/-! ## 1. Ordering: stable sort by the kind table -/

/-- Nothing is lost or duplicated by the kind sort (any table, any list). -/
theorem sort_perm {α} (o : List String) (key : α → String) (xs : List α) :
    (sortByKind o key xs).Perm xs :=
  List.mergeSort_perm _ _

/-- The result is ordered: no element is followed by one whose kind sorts strictly before it. -/
theorem sort_sorted {α} (o : List String) (key : α → String) (xs : List α) :
    (sortByKind o key xs).Pairwise (fun a b => lessByKind o (key b) (key a) = false) := by
  have h := List.pairwise_mergeSort (le := fun x y => leByKind o (key x) (key y))
    (fun a b c => leByKind_trans o _ _ _) (fun a b => leByKind_total o _ _) xs
  refine h.imp ?_
  intro a b hab
  simpa [leByKind] using hab

/-- Stability: two elements that the order does not force apart keep their original relative
order -- in particular two resources of the same kind. -/
theorem sort_stable {α} (o : List String) (key : α → String) (xs : List α) (a b : α)
    (hab : lessByKind o (key b) (key a) = false) (hsub : [a, b].Sublist xs) :
    [a, b].Sublist (sortByKind o key xs) :=
  List.pair_sublist_mergeSort (le := fun x y => leByKind o (key x) (key y))
    (fun a b c => leByKind_trans o _ _ _) (fun a b => leByKind_total o _ _)
    (by simp [leByKind, hab]) hsub

theorem same_kind_keeps_order {α} (o : List String) (key : α → String) (xs : List α) (a b : α)
    (hk : key a = key b) (hsub : [a, b].Sublist xs) :
    [a, b].Sublist (sortByKind o key xs) :=
  sort_stable o key xs a b (by
    have := leByKind_refl o (key a)
    simpa [leByKind, hk] using this) hsub

/-- Known kinds come before unknown kinds. -/
theorem known_before_unknown (o : List String) (a b : String)
    (ha : (rank o a).isSome) (hb : rank o b = none) :
    lessByKind o a b = true ∧ lessByKind o b a = false := by
  unfold lessByKind
  cases h : rank o a <;> simp_all

/-- Known kinds follow the table. -/
theorem known_follow_table (o : List String) (a b : String) (i j : Nat)
    (ha : rank o a = some i) (hb : rank o b = some j) :
    lessByKind o a b = decide (i < j) := by
  simp [lessByKind, ha, hb]

/-- Unknown kinds are ordered alphabetically among themselves. -/
theorem unknown_alphabetical (o : List String) (a b : String)
    (ha : rank o a = none) (hb : rank o b = none) :
    lessByKind o a b = decide (a < b) := by
  simp [lessByKind, ha, hb]

/-- The order never ties two different kinds (so "original order within a kind" is the only
freedom a stable sort has, and the sorted result is unique). -/
theorem no_ties (o : List String) (a b : String)
    (h1 : lessByKind o a b = false) (h2 : lessByKind o b a = false) : a = b :=
  leByKind_antisymm o a b (by simp [leByKind, h2]) (by simp [leByKind, h1])

/-! ## 2. Regenerated table obligations (re-proved against /repo's tables at every run)

A table against its expectation is `rfl`: both sides unfold to literals.  A sweep over a whole
table is left to the kernel alone (`decide +kernel`): plain `decide` would evaluate it in the
elaborator first and then again in the kernel. -/

theorem installOrder_is_spec : Helm.Gen.installOrder = Helm.Spec.installOrder := rfl
theorem uninstallOrder_is_spec : Helm.Gen.uninstallOrder = Helm.Spec.uninstallOrder := rfl
theorem hookEvents_is_spec : Helm.Gen.hookEvents = Helm.Spec.hookEvents := rfl
theorem hookAnnotations_are_spec :
    Helm.Gen.hookAnnotation = "helm.sh/hook" ∧ Helm.Gen.hookWeightAnnotation = "helm.sh/hook-weight" ∧
    Helm.Gen.hookDeleteAnnotation = "helm.sh/hook-delete-policy" ∧
    Helm.Gen.hookOutputLogAnnotation = "helm.sh/hook-output-log-policy" :=
  ⟨rfl, rfl, rfl, rfl⟩
theorem installOrder_nodup : Helm.Gen.installOrder.Nodup := by decide +kernel

/-- The uninstall table is the install table reversed, but for the place of `Service`: checked
against the reverse, every search ends after a few steps. -/
theorem uninstallOrder_perm_installOrder : Helm.Gen.uninstallOrder.Perm Helm.Gen.installOrder :=
  (List.reverse_perm _).symm.trans (by decide +kernel)

theorem uninstallOrder_nodup : Helm.Gen.uninstallOrder.Nodup :=
  uninstallOrder_perm_installOrder.nodup_iff.2 installOrder_nodup

/-- Both tables rank the same set of kinds. -/
theorem orders_same_kinds :
    (∀ k ∈ Helm.Gen.installOrder, k ∈ Helm.Gen.uninstallOrder) ∧
    (∀ k ∈ Helm.Gen.uninstallOrder, k ∈ Helm.Gen.installOrder) :=
  ⟨fun _ => uninstallOrder_perm_installOrder.mem_iff.2, fun _ => uninstallOrder_perm_installOrder.mem_iff.1⟩

/-- A namespace is created before anything that lives in one, and CRDs before workloads. -/
theorem namespace_first :
    ∀ k ∈ Helm.Gen.installOrder, k ≠ "PriorityClass" → k ≠ "Namespace" →
      lessByKind Helm.Gen.installOrder "Namespace" k = true := by
  intro k hk h0 h1
  -- `Namespace` has rank 1 and `k`, being neither of the first two entries, a rank above 1
  obtain ⟨j, hj⟩ := Option.isSome_iff_exists.1 (rank_isSome.2 hk)
  rw [known_follow_table _ _ _ 1 j (by decide) hj]
  match j, getElem?_of_rank hj with
  | 0, h => exact absurd (Option.some.inj h).symm h0
  | 1, h => exact absurd (Option.some.inj h).symm h1
  | j + 2, _ => simp

/-! ## 3. Exactly-once partition of documents into manifests / hooks / dropped -/

/-- Every considered document lands in exactly one of: release manifest, hook list, dropped
(unknown hook event); file path and text are unchanged.  Stated for the complete
`SortManifests` (after both kind sorts), any file map, any head decoder. -/
theorem partition (order : List String) (table : List (String × String)) (headOf : Str → Head)
    (files : List (String × Str)) :
    let r := sortManifests order table headOf files
    let docs := docsOf files
    (r.manifests.map (fun m => (m.name, m.content)) ++ r.hooks.map (fun h => (h.path, h.manifest)) ++
      docs.filter (fun d => classify table d.1 d.2 (headOf d.2) = .dropped)).Perm docs := by
  intro r docs
  have hm : (r.manifests.map (fun m => (m.name, m.content))).Perm
      ((genericOf (classifyAll table headOf docs)).map (fun m => (m.name, m.content))) :=
    (sort_perm order _ _).map _
  have hh : (r.hooks.map (fun h => (h.path, h.manifest))).Perm
      ((hooksOf (classifyAll table headOf docs)).map (fun h => (h.path, h.manifest))) :=
    (sort_perm order _ _).map _
  exact ((hm.append hh).append_right _).trans (classify_partition table headOf docs)

/-- A document is a hook iff it carries the hook annotation and every listed word is a known
event; with the annotation and an unknown word it is dropped; without it, it is a manifest. -/
theorem hook_iff (table : List (String × String)) (path : String) (doc : Str) (h : Head) :
    (∃ hk, classify table path doc h = .hook hk) ↔
      ∃ types evs, lookup hookAnno h.annotations = some types ∧
        eventsOf table (annoItems types) = some evs := by
  unfold classify
  cases h1 : lookup hookAnno h.annotations with
  | none => simp
  | some types =>
    cases h2 : eventsOf table (annoItems types) <;> simp [h2]

theorem dropped_iff (table : List (String × String)) (path : String) (doc : Str) (h : Head) :
    classify table path doc h = .dropped ↔
      ∃ types, lookup hookAnno h.annotations = some types ∧
        eventsOf table (annoItems types) = none := by
  unfold classify
  cases h1 : lookup hookAnno h.annotations with
  | none => simp
  | some types =>
    cases h2 : eventsOf table (annoItems types) <;> simp [h2]

/-- `eventsOf` succeeds exactly when every word is in the events table. -/
theorem eventsOf_isSome_iff (table : List (String × String)) (ws : List String) :
    (eventsOf table ws).isSome ↔ ∀ w ∈ ws, (lookup w table).isSome := by
  induction ws with
  | nil => simp [eventsOf]
  | cons w ws ih =>
    rw [List.forall_mem_cons, ← ih]
    show (match lookup w table, eventsOf table ws with
          | some e, some es => some (e :: es)
          | _, _ => none).isSome ↔ _
    cases lookup w table <;> cases eventsOf table ws <;> simp

/-- Partials and blank files contribute no document; NOTES files are removed before. -/
theorem partial_contributes_nothing (p : String) (c : Str) (hp : isPartial p = true) :
    docsOf [(p, c)] = [] := by
  simp [docsOf, hp]

theorem notes_never_applied (subNotes : Bool) (main : String) (files : List (String × Str)) :
    ∀ kv ∈ (extractNotes subNotes main files).2, hasSuffix kv.1.toList notesSuffix = false := by
  rw [extractNotes_eq]
  intro kv hkv
  simpa using (List.mem_filter.mp hkv).2

/-- ... and every non-NOTES file is passed on unchanged and in order. -/
theorem notes_keeps_rest (subNotes : Bool) (main : String) (files : List (String × Str)) :
    (extractNotes subNotes main files).2 =
      files.filter (fun kv => !hasSuffix kv.1.toList notesSuffix) := by
  rw [extractNotes_eq]

/-- Counterexample to "nothing is lost" at full strength (known finding C08:notes-suffix-drop):
a template whose path merely *ends* in `NOTES.txt` is removed with the notes files, and is not
the main notes file either -- its documents vanish. Replayed on the implementation at every run. -/
theorem counterexample_notes_suffix :
    extractNotes false "c/templates/NOTES.txt"
      [("c/templates/xNOTES.txt", ['k', 'i', 'n', 'd', ':', ' ', 'X'])] = ([], []) := by decide +kernel

/-! ## 4. Split: documents come out trimmed -/

theorem split_docs_trimmed (s : Str) : ∀ d ∈ splitManifests s, trimSpace d = d := by
  intro d hd
  simp only [splitManifests, List.mem_map] at hd
  obtain ⟨x, _, rfl⟩ := hd
  exact trimSpace_idem x

/-! ## 5. Per-kind barrier: under every schedule -/

theorem barrier_inv_init (ks : List String) : BInv ks {} := by
  simp [BInv]

theorem barrier_inv_step (ks : List String) (s s' : BState) (e : Ev)
    (hinv : BInv ks s) (hs : step ks s e = some s') : BInv ks s' := by
  cases e with
  | spawn =>
    obtain ⟨hn, hf, hk, hmem, hrun⟩ := step_spawn hs
    intro j hj
    rw [hf]
    by_cases hjn : j = s.next
    · subst hjn
      exact .inr ⟨hmem, hk⟩
    · rcases hinv j (by omega) with h | ⟨h1, h2⟩
      · exact .inl h
      · rcases hrun with ⟨hc, hsub⟩ | hnil
        · exact .inr ⟨hsub j h1, hc ▸ h2⟩
        · rw [hnil] at h1
          cases h1
  | finish j =>
    simp only [step] at hs
    split at hs
    · cases hs
      intro i hi
      simp only
      by_cases hij : i = j
      · subst hij; left; simp
      · rcases hinv i hi with h | ⟨h1, h2⟩
        · left; exact List.mem_cons_of_mem _ h
        · right; exact ⟨(List.mem_erase_of_ne hij).mpr h1, h2⟩
    · simp at hs

/-- The invariant holds in every reachable state, for any resource list and any schedule. -/
theorem barrier_inv_run (ks : List String) (tr : List Ev) (s s' : BState)
    (hinv : BInv ks s) (hr : run ks s tr = some s') : BInv ks s' := by
  induction tr generalizing s with
  | nil => simp [run] at hr; subst hr; exact hinv
  | cons e es ih =>
    simp only [run] at hr
    cases hst : step ks s e with
    | none => simp [hst] at hr
    | some s1 =>
      simp [hst] at hr
      exact ih s1 (barrier_inv_step ks s s1 e hinv hst) hr

/-- Safety, under every schedule: when creation of resource `i` is started, every earlier
resource of a different kind has finished. -/
theorem barrier (ks : List String) (tr : List Ev) (s s' : BState)
    (hr : run ks {} tr = some s) (hs : step ks s .spawn = some s') :
    ∀ j, j < s.next → ks[j]? ≠ ks[s.next]? → j ∈ s.finished := by
  have hinv := barrier_inv_run ks tr {} s (barrier_inv_init ks) hr
  exact spawn_safe ks s s' hinv hs

/-- Non-vacuity: a concrete schedule over [A, A, B] in which the two A's overlap is accepted,
and one in which B starts before an A has finished is not. -/
example : accepts ["A", "A", "B"] [.spawn, .spawn, .finish 1, .finish 0, .spawn, .finish 2] = true := by decide
example : accepts ["A", "A", "B"] [.spawn, .spawn, .finish 1, .spawn] = false := by decide

/-- The loop the barrier model was written from, as read from kube/client.go on this run: the
batches are keyed by the object's Kind, the wait sits under the key change, and a task is added
to the wait group before its goroutine starts. -/
theorem batch_loop_facts :
    Helm.Gen.batchKey = "info.Object.GetObjectKind().GroupVersionKind().Kind" ∧
    Helm.Gen.batchWaitsOnKeyChange = true ∧ Helm.Gen.batchAddsBeforeGo = true :=
  ⟨rfl, rfl, rfl⟩

end Helm.Props.C08
