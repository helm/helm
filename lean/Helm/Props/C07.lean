/-
C07  Helm never takes over or deletes resources it does not own.
Property theorems only (lemmas: Helm/Lemmas/Cluster.lean; that results are owned rests on
Props/C02; models: Cluster.lean, Ledger.lean).
Every store, every manifest, every flag combination.

Where the full statement fails (counterexample proved here, replayed on the implementation):
  * an unstructured object adopted by `upgrade --take-ownership` is never stamped: the
    adopted object is its own "original", the two-way patch is empty  (`unstructured_adoption_not_stamped`)
  * CRDs of the chart's crds/ directory are installed before the ownership check of an
    install (not in this model: the correspondence reports it, fingerprint C07:refusal-after-mutation:crds)
-/
import Helm.Props.C02
import Helm.Model.Ledger
import Helm.Model.DryRun
import Helm.Gen.Tables
import Helm.Spec.Skeletons

namespace Helm.Props.C07
open Helm.Cluster

abbrev keys (os : List Obj) : List String := os.map (·.key)
abbrev DistinctKeys (os : List Obj) : Prop := (keys os).Pairwise (· ≠ ·)

/-! ### the ownership test -/

/-- `checkOwnership` accepts exactly the objects carrying the managed-by label and this very
release's name and namespace annotations. -/
theorem owned_iff (o : Obj) (rel ns : String) :
    owned o rel ns = true ↔
      o.labels.get? managedByLabel = some "Helm" ∧ o.annos.get? releaseNameAnno = some rel ∧
      o.annos.get? releaseNsAnno = some ns := by
  simp [owned, and_assoc]

/-- every rendered object is stamped as this release's before it is sent -/
theorem stamped_is_owned (rel ns : String) (o : Obj) : owned (stamp rel ns o) rel ns = true :=
  stamp_owned rel ns o

/-! ### refusal happens before any mutation -/

/-- Install refuses exactly when a resource of the manifest exists and is not this release's
(unless take-ownership); a refused install has sent only reads and leaves the cluster as it was. -/
theorem install_refuses_iff (rel ns : String) (to : Bool) (manifest : List Obj) (s : Store) :
    (∃ r ∈ manifest, conflict to rel ns s r) ↔
      (preflight to rel ns (manifest.map (stamp rel ns)) s).1 = none := by
  rw [preflight_none_iff, exists_conflict_map_stamp]

theorem install_refusal_mutates_nothing (rel ns : String) (to force dry : Bool) (manifest : List Obj) (s : Store)
    (h : ∃ r ∈ manifest, conflict to rel ns s r) :
    (installCluster rel ns to force dry manifest s).ok = false ∧
    (installCluster rel ns to force dry manifest s).store = s ∧
    ∀ e ∈ (installCluster rel ns to force dry manifest s).log, e.isWrite = false := by
  obtain ⟨reads, hr, ⟨_, hi⟩ | ⟨hn, _⟩⟩ := installCluster_cases rel ns to force dry manifest s []
  · rw [hi]
    exact ⟨rfl, rfl, hr⟩
  · exact absurd h hn

/-- Upgrade refuses when a resource it would create (in the new manifest, not in the deployed
one) exists and is not this release's (and only then: `upgradeCluster_cases`); a refused upgrade
has sent only reads. -/
theorem upgrade_refusal_mutates_nothing (rel ns : String) (to force dry : Bool) (current target : List Obj) (s : Store)
    (h : ∃ r ∈ target, r.key ∉ keys current ∧ conflict to rel ns s r) :
    (upgradeCluster rel ns to force dry current target s).ok = false ∧
    (upgradeCluster rel ns to force dry current target s).store = s ∧
    ∀ e ∈ (upgradeCluster rel ns to force dry current target s).log, e.isWrite = false := by
  obtain ⟨reads, hr, ⟨_, hu⟩ | ⟨hn, _⟩⟩ := upgradeCluster_cases rel ns to force dry current target s []
  · rw [hu]
    exact ⟨rfl, rfl, hr⟩
  · exact absurd h hn

/-- ... and the deployed revision: an install or upgrade that fails its pre-flight checks
(of which the ownership check is one) attempts no storage write at all. -/
theorem install_refused_history_unchanged (fl : Helm.Ledger.InstallFlags) (f fn : Helm.Ledger.Faults)
    (hp : f.pre = .fail) (p : Nat) (l : Helm.Ledger.Ledger) :
    (Helm.Ledger.install fl f fn p l).1.ledger = l ∧ (Helm.Ledger.install fl f fn p l).1.writes = [] := by
  unfold Helm.Ledger.install
  simp [hp]

theorem upgrade_refused_history_unchanged (fl : Helm.Ledger.UpgradeFlags) (f fn : Helm.Ledger.Faults)
    (hp : f.pre = .fail) (p : Nat) (l : Helm.Ledger.Ledger) :
    (Helm.Ledger.upgrade fl f fn p l).1.ledger = l ∧ (Helm.Ledger.upgrade fl f fn p l).1.writes = [] := by
  unfold Helm.Ledger.upgrade
  simp [hp]

/-! ### what Helm creates or updates is stamped -/

theorem install_result_owned (rel ns : String) (to force : Bool) (manifest : List Obj) (s : Store)
    (hn : DistinctKeys manifest)
    (hok : (installCluster rel ns to force false manifest s).ok = true) :
    ∀ t ∈ manifest, fullMerge force to t = true →
      ∃ o, (installCluster rel ns to force false manifest s).store.get? t.key = some o ∧ owned o rel ns = true := by
  intro t ht hm
  obtain ⟨o, ho, hc⟩ := Helm.Props.C02.install_targets_present rel ns to force manifest s hn hok t ht
  exact ⟨o, ho, owned_of_covers_stamp (hc hm)⟩

theorem upgrade_result_owned (rel ns : String) (to force : Bool) (current target : List Obj) (s : Store)
    (hn : DistinctKeys target)
    (hok : (upgradeCluster rel ns to force false current target s).ok = true) :
    ∀ t ∈ target, fullMerge force false t = true →
      ∃ o, (upgradeCluster rel ns to force false current target s).store.get? t.key = some o ∧ owned o rel ns = true := by
  intro t ht hm
  obtain ⟨o, ho, hc⟩ := Helm.Props.C02.upgrade_targets_present rel ns to force current target s hn hok t ht
  exact ⟨o, ho, owned_of_covers_stamp (hc hm)⟩

/-! ### deletes are confined to the release's own manifests -/

/-- `Client.update` deletes only objects of the original manifest that the target dropped. -/
theorem update_deletes_confined (rej : List String) (force three : Bool) (original target : List Obj) (s : Store) :
    ∀ e ∈ (updateR rej force three original target s).log, e.isDelete = true →
      e.key ∈ keys original ∧ e.key ∉ keys target := by
  intro e he hd
  rcases updateR_log rej force three original target s e he with h | h
  · rw [hd] at h
    cases h.2
  · exact h

private theorem not_read_of_delete {reads : List Ev} (hr : ∀ e ∈ reads, e.isWrite = false) {e : Ev}
    (hd : e.isDelete = true) : e ∉ reads := by
  intro he
  have := hr e he
  cases e <;> simp_all [Ev.isWrite, Ev.isDelete]

/-- An upgrade deletes only objects named in the deployed manifest (and absent from the new one). -/
theorem upgrade_deletes_confined (rel ns : String) (to force dry : Bool) (current target : List Obj) (s : Store) :
    ∀ e ∈ (upgradeCluster rel ns to force dry current target s).log, e.isDelete = true →
      e.key ∈ keys current ∧ e.key ∉ keys target := by
  intro e he hd
  obtain ⟨reads, hr, ⟨_, h⟩ | ⟨_, ⟨_, h⟩ | ⟨_, adopted, rb, ha, hrb, h⟩⟩⟩ :=
    upgradeCluster_cases rel ns to force dry current target s []
  · rw [h] at he
    exact absurd he (not_read_of_delete hr hd)
  · rw [h] at he
    exact absurd he (not_read_of_delete hr hd)
  · rw [h, hrb] at he
    rcases List.mem_append.mp he with h1 | h1
    · exact absurd h1 (not_read_of_delete hr hd)
    · obtain ⟨h2, h3⟩ := update_deletes_confined [] force false (current ++ adopted) _ s e h1 hd
      rw [keys, keys_map_stamp] at h3
      refine ⟨?_, h3⟩
      -- an adopted object is in the new manifest, so it is not the one deleted
      rw [keys, List.map_append] at h2
      rcases List.mem_append.mp h2 with h4 | h4
      · exact h4
      · obtain ⟨a, haa, hak⟩ := List.mem_map.mp h4
        exact absurd (hak ▸ ha a haa) h3

/-- An install deletes nothing. -/
theorem install_deletes_nothing (rel ns : String) (to force dry : Bool) (manifest : List Obj) (s : Store) :
    ∀ e ∈ (installCluster rel ns to force dry manifest s).log, e.isDelete = false := by
  intro e he
  cases hd : e.isDelete with
  | false => rfl
  | true =>
    exfalso
    obtain ⟨reads, hr, ⟨_, h⟩ | ⟨_, ⟨_, h⟩ | ⟨_, h | ⟨adopted, up, ha, hup, h⟩⟩⟩⟩ :=
      installCluster_cases rel ns to force dry manifest s []
    · rw [h] at he
      exact not_read_of_delete hr hd he
    · rw [h] at he
      exact not_read_of_delete hr hd he
    · rw [h] at he
      rcases List.mem_append.mp he with h1 | h1
      · exact not_read_of_delete hr hd h1
      · obtain ⟨x, _, rfl⟩ := List.mem_map.mp h1
        cases hd
    · rw [h, hup] at he
      rcases List.mem_append.mp he with h1 | h1
      · exact not_read_of_delete hr hd h1
      · -- the originals of this update are all in its target
        obtain ⟨h2, h3⟩ := update_deletes_confined [] force to adopted _ s e h1 hd
        obtain ⟨a, haa, hak⟩ := List.mem_map.mp h2
        exact h3 (hak ▸ List.mem_map_of_mem (ha a haa))

/-- A rollback deletes only objects named in the current manifest (that they are absent from the
target is `update_deletes_confined`). -/
theorem rollback_deletes_confined (rel ns : String) (force : Bool) (current target : List Obj) (s : Store) :
    ∀ e ∈ (rollbackCluster rel ns force current target s).log, e.isDelete = true → e.key ∈ keys current := by
  intro e he hd
  unfold rollbackCluster at he
  exact (update_deletes_confined [] force false current _ s e he hd).1

/-! ### where the full statement fails -/

def crLive : Obj := { key := "x/default/w", typed := false, data := [("k", "v")] }
def crMan : Obj := { key := "x/default/w", typed := false, data := [("k", "v")] }

/-- `upgrade --take-ownership` adopts a foreign unstructured object without stamping it: the
operation succeeds, not one write is sent, and the object is still not this release's. -/
theorem counterexample_unstructured_adoption_not_stamped :
    (upgradeCluster "r" "n" true false false [] [crMan] [crLive]).ok = true ∧
    (upgradeCluster "r" "n" true false false [] [crMan] [crLive]).store = [crLive] ∧
    owned crLive "r" "n" = false := by decide

/-- The CRDs of the chart's crds/ directory are created before the ownership check: an install
that is then refused has already changed the cluster. -/
theorem counterexample_crds_created_before_refusal :
    let s : Store := [{ key := "a" }]       -- a foreign object the manifest would create
    let r := Helm.DryRun.installOp "r" "n" {} false false [{ key := "crd/x" }] [{ key := "a" }] s
    r.ok = false ∧ r.log = [.create "crd/x", .get "a"] ∧ r.store ≠ s := by decide

/-- non-vacuity: a refusal, with a bystander and a foreign object in the store -/
example :
    let s : Store := [{ key := "a", labels := [(managedByLabel, "Helm")], annos := [(releaseNameAnno, "other"), (releaseNsAnno, "n")] }]
    (installCluster "r" "n" false false false [{ key := "a" }] s).ok = false ∧
    (installCluster "r" "n" true false false [{ key := "a" }] s).ok = true := by decide

/-! ### where the ownership check sits in the source (regenerated at every run) -/

/-- In install and in upgrade the ownership check (existingResourceConflict / requireAdoption)
comes before the revision record is created and before the operation proper; in install the CRDs
are installed before it (the known finding). -/
theorem ownership_check_position :
    Helm.Spec.precedes "existingResourceConflict" "Releases.Create" Helm.Gen.skelInstallRun = true ∧
    Helm.Spec.precedes "requireAdoption" "Releases.Create" Helm.Gen.skelInstallRun = true ∧
    Helm.Spec.precedes "existingResourceConflict" "i.performInstallCtx" Helm.Gen.skelInstallRun = true ∧
    Helm.Spec.precedes "existingResourceConflict" "Releases.Create" Helm.Gen.skelUpgradePerform = true ∧
    Helm.Spec.precedes "requireAdoption" "Releases.Create" Helm.Gen.skelUpgradePerform = true ∧
    Helm.Spec.precedes "existingResourceConflict" "u.releasingUpgrade" Helm.Gen.skelUpgradePerform = true ∧
    Helm.Spec.precedes "i.installCRDs" "existingResourceConflict" Helm.Gen.skelInstallRun = true := by decide

/-- `--take-ownership` is the only flag bound to TakeOwnership, in install and upgrade (regenerated from pkg/cmd at
every run). -/
theorem take_ownership_flag_bound :
    Helm.Spec.forwardsAll Helm.Gen.installFlags [("take-ownership", "client.TakeOwnership")] = true ∧
    Helm.Spec.forwardsAll Helm.Gen.upgradeFlags [("take-ownership", "client.TakeOwnership")] = true ∧
    (Helm.Gen.installFlags.filter (fun p => p.2 == "client.TakeOwnership")).length = 1 ∧
    (Helm.Gen.upgradeFlags.filter (fun p => p.2 == "client.TakeOwnership")).length = 1 := by
  decide

end Helm.Props.C07
