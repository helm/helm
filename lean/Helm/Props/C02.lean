/-
C02  After a successful operation the cluster matches the recorded manifest.
Property theorems only (lemmas: Helm/Lemmas/Cluster.lean; model: Helm/Model/Cluster.lean).
The statements quantify over every store (so over every out-of-band edit and deletion and
every bystander), every pair of manifests and every flag combination.  "The cluster accepted
every request" is the model's standing assumption: the only refusals are ownership conflicts.

The full statement is FALSE of the code in one place, each proved here as a counterexample
and replayed on the implementation by the correspondence (known findings):
  * unstructured kinds are patched two-way (old manifest vs new manifest), so an out-of-band
    edit of a field both manifests agree on is not reverted      (`unstructured_drift_not_reverted`)
  (a second place -- uninstall left, and did not list, a resource whose resource-policy
  annotation had a value other than keep -- was repaired in /repo: `keepClass_total`)
The theorems therefore carry the hypothesis `fullMerge` (replace, typed kind, or three-way
merge requested) where fields are concerned, and `keepClass` for uninstall.
-/
import Helm.Lemmas.Cluster

namespace Helm.Props.C02
open Helm.Cluster

abbrev keys (os : List Obj) : List String := os.map (·.key)
/-- a manifest names each object once -/
abbrev DistinctKeys (os : List Obj) : Prop := (keys os).Pairwise (· ≠ ·)

private theorem same_of_key {os : List Obj} (hn : DistinctKeys os) {x o : Obj} (hx : x ∈ os) (ho : o ∈ os)
    (hk : x.key = o.key) : x = o := by
  induction os with
  | nil => cases hx
  | cons a rest ih =>
    unfold DistinctKeys keys at hn
    simp only [List.map_cons, List.pairwise_cons] at hn
    rcases List.mem_cons.mp hx with h1 | h1 <;> rcases List.mem_cons.mp ho with h2 | h2
    · rw [h1, h2]
    · subst h1; exact absurd hk (hn.1 o.key (List.mem_map_of_mem h2))
    · subst h2; exact absurd hk.symm (hn.1 x.key (List.mem_map_of_mem h1))
    · exact ih hn.2 h1 h2

/-! ### `Client.update`: the engine of install-with-adoption, upgrade and rollback -/

/-- Every resource of the new manifest exists afterwards, and -- when the patch is computed
against the live object -- with every field, label and annotation the manifest specifies,
whatever the live object looked like before. -/
theorem update_targets_present (rej : List String) (force three : Bool) (original target : List Obj) (s : Store)
    (hn : DistinctKeys target) (hok : (updateR rej force three original target s).err = false) :
    ∀ t ∈ target, ∃ o, (updateR rej force three original target s).store.get? t.key = some o ∧
      (fullMerge force three t = true → o.covers t) := by
  intro t ht
  obtain ⟨r, hr, ⟨he, h⟩ | ⟨he, h⟩⟩ := updateR_cases rej force three original target s
  · rw [h, he] at hok
    cases hok
  · subst hr
    -- the second loop leaves the targets alone
    rw [h, deleteRemoved_get?, if_neg (fun hd => hd.2 (List.mem_map_of_mem ht))]
    exact updateTargets_present force three original target _ hn he t ht

/-- Every resource of the previous manifest that the new one drops is gone, unless the live
object carries the keep policy -- in which case it is left exactly as it was. -/
theorem update_removed_deleted (rej : List String) (force three : Bool) (original target : List Obj) (s : Store)
    (hok : (updateR rej force three original target s).err = false) :
    ∀ o ∈ original, o.key ∉ keys target →
      (updateR rej force three original target s).store.get? o.key = none ∨
      ∃ live, s.get? o.key = some live ∧ keepLive live = true ∧
        (updateR rej force three original target s).store.get? o.key = some live := by
  intro o ho hk
  obtain ⟨r, hr, ⟨he, h⟩ | ⟨_, h⟩⟩ := updateR_cases rej force three original target s
  · rw [h, he] at hok
    cases hok
  · subst hr
    -- the first loop leaves `o.key` alone; the second filters what is there by the keep policy
    rw [h, deleteRemoved_get?, if_pos ⟨List.mem_map_of_mem ho, hk⟩, updateTargets_frame _ _ _ _ _ _ hk]
    cases s.get? o.key with
    | none => exact Or.inl rfl
    | some live =>
      cases hl : keepLive live with
      | false => exact Or.inl (Option.filter_some_neg hl)
      | true => exact Or.inr ⟨live, rfl, hl, Option.filter_some_pos hl⟩

/-- No object outside the two manifests is created, changed or deleted -- whether or not the
operation succeeds. -/
theorem update_frame (rej : List String) (force three : Bool) (original target : List Obj) (s : Store) (k : String)
    (ht : k ∉ keys target) (ho : k ∉ keys original) :
    (updateR rej force three original target s).store.get? k = s.get? k := by
  obtain ⟨r, hr, ⟨_, h⟩ | ⟨_, h⟩⟩ := updateR_cases rej force three original target s
  · rw [h, hr]
    exact updateTargets_frame _ _ _ _ _ _ ht
  · rw [h, deleteRemoved_get?, if_neg (fun hd => ho hd.1), hr]
    exact updateTargets_frame _ _ _ _ _ _ ht

/-- ... and no request at all is made about such an object. -/
theorem update_requests_confined (rej : List String) (force three : Bool) (original target : List Obj) (s : Store) :
    ∀ e ∈ (updateR rej force three original target s).log, e.key ∈ keys target ∨ e.key ∈ keys original :=
  fun e he => (updateR_log rej force three original target s e he).imp And.left And.left

/-! ### rollback, and upgrade: a rollback-shaped update after the pre-flight -/

/-- A successful rollback puts back every resource of the target revision, removes what the
current one added (keep policy aside), and touches nothing else. -/
theorem rollback_targets_present (rel ns : String) (force : Bool) (current target : List Obj) (s : Store) (rej : List String)
    (hn : DistinctKeys target) (hok : (rollbackCluster rel ns force current target s rej).ok = true) :
    ∀ t ∈ target, ∃ o, (rollbackCluster rel ns force current target s rej).store.get? t.key = some o ∧
      (fullMerge force false t = true → o.covers (stamp rel ns t)) := by
  intro t ht
  have hn' : DistinctKeys (target.map (stamp rel ns)) := by
    rwa [DistinctKeys, keys, keys_map_stamp]
  have hok' : (updateR rej force false current (target.map (stamp rel ns)) s).err = false := by
    simpa [rollbackCluster] using hok
  exact update_targets_present rej force false current _ s hn' hok' (stamp rel ns t) (List.mem_map_of_mem ht)

theorem rollback_removed_deleted (rel ns : String) (force : Bool) (current target : List Obj) (s : Store) (rej : List String)
    (hok : (rollbackCluster rel ns force current target s rej).ok = true) :
    ∀ o ∈ current, o.key ∉ keys target →
      (rollbackCluster rel ns force current target s rej).store.get? o.key = none ∨
      ∃ live, s.get? o.key = some live ∧ keepLive live = true ∧
        (rollbackCluster rel ns force current target s rej).store.get? o.key = some live := by
  intro o ho hk
  have hok' : (updateR rej force false current (target.map (stamp rel ns)) s).err = false := by
    simpa [rollbackCluster] using hok
  exact update_removed_deleted rej force false current _ s hok' o ho (by rwa [keys, keys_map_stamp])

theorem rollback_frame (rel ns : String) (force : Bool) (current target : List Obj) (s : Store) (rej : List String) (k : String)
    (ht : k ∉ keys target) (hc : k ∉ keys current) :
    (rollbackCluster rel ns force current target s rej).store.get? k = s.get? k := by
  exact update_frame rej force false current _ s k (by rwa [keys, keys_map_stamp]) hc

/-- A successful upgrade: every resource of the new manifest exists with what the (stamped)
manifest specifies. -/
theorem upgrade_targets_present (rel ns : String) (to force : Bool) (current target : List Obj) (s : Store)
    (hn : DistinctKeys target)
    (hok : (upgradeCluster rel ns to force false current target s).ok = true) :
    ∀ t ∈ target, ∃ o, (upgradeCluster rel ns to force false current target s).store.get? t.key = some o ∧
      (fullMerge force false t = true → o.covers (stamp rel ns t)) := by
  obtain ⟨reads, _, ⟨_, h⟩ | ⟨_, ⟨hd, _⟩ | ⟨_, adopted, rb, _, hrb, h⟩⟩⟩ :=
    upgradeCluster_cases rel ns to force false current target s []
  · rw [h] at hok
    cases hok
  · cases hd
  · rw [h] at hok ⊢
    subst hrb
    exact rollback_targets_present rel ns force (current ++ adopted) target s [] hn hok

/-- A successful upgrade: what the previous manifest had and the new one drops is gone, unless
the live object carries the keep policy. -/
theorem upgrade_removed_deleted (rel ns : String) (to force : Bool) (current target : List Obj) (s : Store)
    (hok : (upgradeCluster rel ns to force false current target s).ok = true) :
    ∀ o ∈ current, o.key ∉ keys target →
      (upgradeCluster rel ns to force false current target s).store.get? o.key = none ∨
      ∃ live, s.get? o.key = some live ∧ keepLive live = true ∧
        (upgradeCluster rel ns to force false current target s).store.get? o.key = some live := by
  intro o ho
  obtain ⟨reads, _, ⟨_, h⟩ | ⟨_, ⟨hd, _⟩ | ⟨_, adopted, rb, _, hrb, h⟩⟩⟩ :=
    upgradeCluster_cases rel ns to force false current target s []
  · rw [h] at hok
    cases hok
  · cases hd
  · rw [h] at hok ⊢
    subst hrb
    exact rollback_removed_deleted rel ns force (current ++ adopted) target s [] hok o (List.mem_append_left _ ho)

/-- An upgrade -- successful, failed, refused or dry-run -- never touches an object that is
in neither the deployed nor the new manifest. -/
theorem upgrade_frame (rel ns : String) (to force dry : Bool) (current target : List Obj) (s : Store) (k : String)
    (ht : k ∉ keys target) (hc : k ∉ keys current) :
    (upgradeCluster rel ns to force dry current target s).store.get? k = s.get? k := by
  obtain ⟨reads, _, ⟨_, h⟩ | ⟨_, ⟨_, h⟩ | ⟨_, adopted, rb, ha, hrb, h⟩⟩⟩ :=
    upgradeCluster_cases rel ns to force dry current target s []
  · rw [h]
  · rw [h]
  · rw [h, hrb]
    apply rollback_frame rel ns force (current ++ adopted) target s [] k ht
    -- what was adopted is in the new manifest
    intro hm
    rw [keys, List.map_append] at hm
    rcases List.mem_append.mp hm with h1 | h1
    · exact hc h1
    · obtain ⟨a, haa, hak⟩ := List.mem_map.mp h1
      exact ht (hak ▸ ha a haa)

/-! ### install -/

/-- A successful install: every resource of the manifest exists with what the stamped
manifest specifies (adopted objects: when the merge is computed against the live object). -/
theorem install_targets_present (rel ns : String) (to force : Bool) (manifest : List Obj) (s : Store)
    (hn : DistinctKeys manifest)
    (hok : (installCluster rel ns to force false manifest s).ok = true) :
    ∀ t ∈ manifest, ∃ o, (installCluster rel ns to force false manifest s).store.get? t.key = some o ∧
      (fullMerge force to t = true → o.covers (stamp rel ns t)) := by
  intro t ht
  have hn' : DistinctKeys (manifest.map (stamp rel ns)) := by
    rwa [DistinctKeys, keys, keys_map_stamp]
  obtain ⟨reads, _, ⟨_, h⟩ | ⟨_, ⟨hd, _⟩ | ⟨_, h | ⟨adopted, up, _, hup, h⟩⟩⟩⟩ :=
    installCluster_cases rel ns to force false manifest s []
  · rw [h] at hok
    cases hok
  · cases hd
  · have hf : (manifest.map (stamp rel ns)).filter (fun r => !([] : List String).contains r.key) =
        manifest.map (stamp rel ns) := by simp
    rw [h, hf]
    exact ⟨stamp rel ns t, Store.get?_foldl_put_mem _ s _ (List.mem_map_of_mem ht) hn', fun _ => Obj.covers_refl _⟩
  · rw [h] at hok ⊢
    subst hup
    exact update_targets_present [] force to adopted _ s hn' (by simpa using hok) (stamp rel ns t)
      (List.mem_map_of_mem ht)

/-- An install -- successful, failed, refused or dry-run -- never touches an object outside
its manifest. -/
theorem install_frame (rel ns : String) (to force dry : Bool) (manifest : List Obj) (s : Store) (k : String)
    (hk : k ∉ keys manifest) :
    (installCluster rel ns to force dry manifest s).store.get? k = s.get? k := by
  have hk' : k ∉ keys (manifest.map (stamp rel ns)) := by
    rwa [keys, keys_map_stamp]
  obtain ⟨reads, _, ⟨_, h⟩ | ⟨_, ⟨_, h⟩ | ⟨_, h | ⟨adopted, up, ha, hup, h⟩⟩⟩⟩ :=
    installCluster_cases rel ns to force dry manifest s []
  · rw [h]
  · rw [h]
  · rw [h]
    exact Store.get?_foldl_put_frame _ s k (fun hm => hk' ((List.filter_sublist.map _).subset hm))
  · rw [h, hup]
    apply update_frame [] force to adopted _ s k hk'
    intro hm
    obtain ⟨a, haa, hak⟩ := List.mem_map.mp hm
    exact hk' (hak ▸ List.mem_map_of_mem (ha a haa))

/-! ### uninstall -/

/-- Every resource of the manifest without a resource-policy annotation is gone. -/
theorem uninstall_deletes (manifest : List Obj) (s : Store) :
    ∀ o ∈ manifest, keepClass o = some false → (uninstallCluster manifest s).store.get? o.key = none := by
  intro o ho hc
  rw [uninstallCluster_get?, if_pos]
  exact List.mem_map_of_mem (List.mem_filter.mpr ⟨ho, by simp [hc]⟩)

/-- Every resource with the keep policy is left untouched and listed in the response. -/
theorem uninstall_keeps (manifest : List Obj) (s : Store) (hn : DistinctKeys manifest) :
    ∀ o ∈ manifest, keepClass o = some true →
      (uninstallCluster manifest s).store.get? o.key = s.get? o.key ∧
      o.key ∈ (uninstallCluster manifest s).kept := by
  intro o ho hc
  refine ⟨?_, List.mem_map_of_mem (List.mem_filter.mpr ⟨ho, by simp [hc]⟩)⟩
  rw [uninstallCluster_get?, if_neg]
  intro hm
  obtain ⟨x, hx, hxk⟩ := List.mem_map.mp hm
  have hx' := List.mem_filter.mp hx
  -- the manifest has one object with this key, and it is kept
  cases same_of_key hn hx'.1 ho hxk
  simp [hc] at hx'

/-- Uninstall touches nothing outside the manifest, and its only requests are deletions of
manifest resources. -/
theorem uninstall_frame (manifest : List Obj) (s : Store) (k : String) (hk : k ∉ keys manifest) :
    (uninstallCluster manifest s).store.get? k = s.get? k := by
  rw [uninstallCluster_get?, if_neg]
  exact fun hm => hk ((List.filter_sublist.map _).subset hm)

theorem uninstall_requests (manifest : List Obj) (s : Store) :
    ∀ e ∈ (uninstallCluster manifest s).log, e.isDelete = true ∧ e.key ∈ keys manifest := by
  intro e he
  unfold uninstallCluster at he
  simp only at he
  obtain ⟨x, hx, hxe⟩ := List.mem_map.mp he
  subst hxe
  exact ⟨rfl, List.mem_map.mpr ⟨x, (List.mem_filter.mp hx).1, rfl⟩⟩

/-! ### where the full statement fails (replayed on the implementation: known findings) -/

def cmLive : Obj := { key := "x/default/w", typed := false, data := [("k", "edited")] }
def cmMan : Obj := { key := "x/default/w", typed := false, data := [("k", "v")] }

/-- An unstructured object whose field was edited out of band is not put back by an upgrade
to a manifest that specifies the same value as the previous one: the two-way patch is empty. -/
theorem counterexample_unstructured_drift_not_reverted :
    (update false false [cmMan] [cmMan] [cmLive]).err = false ∧
    (update false false [cmMan] [cmMan] [cmLive]).store = [cmLive] ∧
    ¬ cmLive.covers cmMan := by
  refine ⟨by decide, by decide, ?_⟩
  intro h
  have := h.1 "k" (by decide)
  revert this
  decide

def withPolicy : Obj := { key := "x/default/p", annos := [(policyAnno, "delete")] }

/-- Every resource of the manifest is either deleted or kept and listed: there is no third class
(before the repair `fix: uninstall deletes resources whose resource-policy annotation is not keep`
a resource-policy value other than keep put the resource in neither list). -/
theorem keepClass_total (o : Obj) : keepClass o = some true ∨ keepClass o = some false := by
  unfold keepClass
  cases o.annos.get? policyAnno with
  | none => exact Or.inr rfl
  | some v => simp only; split <;> simp

theorem uninstall_other_policy_deleted :
    (uninstallCluster [withPolicy] [withPolicy]).store = [] ∧
    (uninstallCluster [withPolicy] [withPolicy]).kept = [] ∧
    (uninstallCluster [withPolicy] [withPolicy]).log = [.delete "x/default/p"] := by decide

/-- non-vacuity: a successful upgrade that creates, patches a drifted typed object and deletes -/
example :
    let cur : List Obj := [{ key := "a", data := [("k", "1")] }, { key := "b" }]
    let tgt : List Obj := [{ key := "a", data := [("k", "1")] }, { key := "c" }]
    let s : Store := [stamp "r" "n" { key := "a", data := [("k", "edited")] }, stamp "r" "n" { key := "b" }, { key := "z" }]
    let r := upgradeCluster "r" "n" false false false cur tgt s
    r.ok = true ∧ (r.store.get? "b") = none ∧ ((r.store.get? "a").map (·.data)) = some [("k", "1")] ∧
    r.store.get? "z" = some { key := "z" } := by decide

end Helm.Props.C02
