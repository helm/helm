/-
C19  Repository credentials are sent only to the repository's own host.
-/
import Helm.Model.Creds

namespace Helm.Props.C19
open Helm.Creds

/-! ## 1. The decision in the HTTP getter, stated outright -/

theorem auth_decision (o : Opts) (href : Origin) :
    sendsAuth o href = true ↔
      (o.user ≠ "" ∧ o.pass ≠ "") ∧ (o.passAll = true ∨ (o.url.scheme = href.scheme ∧ o.url.host = href.host)) := by
  simp only [sendsAuth, sameOrigin, Bool.and_eq_true, Bool.or_eq_true, decide_eq_true_eq, ne_eq]
  constructor
  · rintro ⟨h1, h2⟩; exact ⟨h2, h1⟩
  · rintro ⟨h1, h2⟩; exact ⟨h2, h1⟩

/-- Without pass-credentials nothing is attached to a request whose scheme or host (with port)
differs from the getter URL's. -/
theorem other_origin_gets_nothing (o : Opts) (href : Origin) (hp : o.passAll = false)
    (hd : o.url.scheme ≠ href.scheme ∨ o.url.host ≠ href.host) : sendsAuth o href = false := by
  rw [Bool.eq_false_iff, ne_eq, auth_decision, hp]
  rintro ⟨_, h | ⟨h1, h2⟩⟩
  · cases h
  · exact hd.elim (absurd h1) (absurd h2)

private theorem applyOpts_append (o : Opts) (l l' : List Opt) :
    applyOpts o (l ++ l') = applyOpts (applyOpts o l) l' :=
  List.foldl_append

/-- Options fold left to right: the last `WithURL` / `WithBasicAuth` / pass-credentials wins. -/
theorem options_fold (o : Opts) (l : List Opt) (x : Opt) :
    applyOpts o (l ++ [x]) = applyOpt (applyOpts o l) x :=
  applyOpts_append o l [x]

/-! ## 2. Per call path: credentials of repository R reach only R's origin -/

theorem applyOpts_repoOpts_creds (o : Opts) (rc : Repo) (h : rc.hasCreds = true) :
    applyOpts o (repoOpts rc) = { url := rc.url, user := rc.user, pass := rc.pass, passAll := rc.passAll } := by
  simp [applyOpts, repoOpts, h, applyOpt]

/-- `reponame/chart` references (also what `helm install repo/chart` uses): whatever URL the
index lists for the chart -- relative, absolute, on another host -- the repository's
credentials go with the request only if that URL is on the repository's origin, or
pass-credentials is set for the repository. Holds for the chart and for its `.prov`. -/
theorem named_repo_scoped (initial : List Opt) (rc : Repo) (href : Origin) (hc : rc.hasCreds = true)
    (h : sendsAuth (applyOpts {} (resolveNamed initial rc)) href = true) :
    rc.passAll = true ∨ sameOrigin rc.url href = true := by
  rw [resolveNamed, applyOpts_append, applyOpts_repoOpts_creds _ rc hc] at h
  simp only [sendsAuth, Bool.and_eq_true, Bool.or_eq_true] at h
  exact h.1

/-- Absolute chart URL owned by a configured repository with credentials: same scoping. -/
theorem owned_url_scoped (initial : List Opt) (rc : Repo) (ref : Origin) (hc : rc.hasCreds = true)
    (h : sendsAuth (applyOpts {} (resolveAbs initial ref (some rc))) ref = true) :
    rc.passAll = true ∨ sameOrigin rc.url ref = true :=
  named_repo_scoped initial rc ref hc h

/-- `helm install --repo URL chart` (LocateChart): the user's credentials for the repository go
to the chart URL only if it is on the repository's origin or pass-credentials is set. -/
theorem locate_chart_scoped (user pass : String) (passAll : Bool) (repoURL chartURL : Origin)
    (h : sendsAuth (applyOpts {} (locateChartRepoURL user pass passAll repoURL chartURL none)) chartURL = true) :
    passAll = true ∨ sameOrigin repoURL chartURL = true := by
  unfold locateChartRepoURL resolveAbs at h
  by_cases hc : (passAll || sameOrigin repoURL chartURL) = true
  · simpa using hc
  · simp only [hc, Bool.false_eq_true, if_false] at h
    simp [applyOpts, applyOpt, sendsAuth] at h

/-- Dependency update, chart URL owned by the dependency's own repository. -/
theorem manager_scoped (depRepo : Repo) (churl : Origin) (hc : depRepo.hasCreds = true)
    (h : sendsAuth (applyOpts {} (managerDownload depRepo churl (some depRepo))) churl = true) :
    depRepo.passAll = true ∨ sameOrigin depRepo.url churl = true :=
  owned_url_scoped _ depRepo churl hc h

/-! ## 3. Where the property does not hold (proved counterexamples, replayed on the code) -/

/-- `helm pull --repo`: unlike LocateChart, `Pull.Run` keeps the credentials and the chart URL
itself becomes the getter URL, so the same-origin test passes trivially: the repository's
credentials are sent to a chart URL on another host (known finding C19:pull-repo-cross-origin). -/
theorem counterexample_pull_repo :
    let repo : Origin := ⟨"http", "repo.test"⟩
    let chart : Origin := ⟨"http", "charts.elsewhere.test"⟩
    sameOrigin repo chart = false ∧
    sendsAuth (applyOpts {} (pullRepoURL "user" "secret" false chart none)) chart = true := by decide

/-- Dependency update when the chart URL has no owner among the configured repositories
(index lists it relatively, or the repository is not configured): the dependency repository's
credentials go to the chart URL whatever its origin; harmless exactly when the chart URL is on
the repository's origin (relative index URLs), which is what the theorem records. -/
theorem manager_unowned_sends (depRepo : Repo) (churl : Origin) (hc : depRepo.hasCreds = true) :
    sendsAuth (applyOpts {} (managerDownload depRepo churl none)) churl = true := by
  simp only [Repo.hasCreds, Bool.and_eq_true, decide_eq_true_eq] at hc
  simp [managerDownload, resolveAbs, applyOpts, applyOpt, sendsAuth, sameOrigin, hc.1, hc.2]

/-- Dependency update, chart URL also listed by ANOTHER configured repository that has no
credentials of its own and is on the chart URL's origin: the dependency repository's credentials
stay in the options and are sent to that foreign origin. -/
theorem counterexample_manager_foreign_owner :
    let r : Repo := { url := ⟨"http", "repo.test"⟩, user := "user", pass := "secret" }
    let other : Repo := { url := ⟨"http", "mirror.test"⟩ }
    let churl : Origin := ⟨"http", "mirror.test"⟩
    sameOrigin r.url churl = false ∧
    sendsAuth (applyOpts {} (managerDownload r churl (some other))) churl = true := by decide

end Helm.Props.C19
