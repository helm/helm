/-
C05  Rendering is deterministic and sees only the chart, values and release data.
Not modelled: text/template and sprig execution, the JSON-schema compiler (observed by the
correspondence: repeated / concurrent renders, environment, cwd).
-/
import Helm.Model.Render
import Helm.Model.Manifest
import Helm.Lemmas.Render
import Helm.Lemmas.Manifest
import Helm.Spec.Tables

namespace Helm.Props.C05
open Helm.Render Helm.Manifest

/-! ## 1. No map iteration order reaches the template engine or the manifest -/

/-- The order in which templates are parsed and executed is a function of the *set* of template
paths: any two iteration orders of the template map give the same order. -/
theorem sortTemplates_perm_invariant (keys keys' : List String) (hp : keys.Perm keys') :
    sortTemplates keys = sortTemplates keys' :=
  mergeSort_perm_invariant geTpl geTpl_trans geTpl_total keys keys'
    (fun a b _ _ h1 h2 => geTpl_antisymm a b h1 h2) hp

/-- The manifests and hooks produced by `SortManifests` -- their content and their order -- do
not depend on the iteration order of the rendered-file map (keys of a map are distinct). -/
theorem sortManifests_perm_invariant (order : List String) (table : List (String × String))
    (headOf : Str → Head) (files files' : List (String × Str))
    (hn : (files.map (·.1)).Nodup) (hp : files.Perm files') :
    (sortManifests order table headOf files).manifests = (sortManifests order table headOf files').manifests ∧
    (sortManifests order table headOf files).hooks = (sortManifests order table headOf files').hooks := by
  unfold sortManifests
  rw [docsOf_perm_invariant files files' hn hp]
  exact ⟨rfl, rfl⟩

/-- The files handed on to `SortManifests` after NOTES extraction are the same set, whatever
the iteration order. -/
theorem notes_rest_perm (subNotes : Bool) (main : String) (files files' : List (String × Str))
    (hp : files.Perm files') :
    (extractNotes subNotes main files).2.Perm (extractNotes subNotes main files').2 := by
  rw [extractNotes_eq, extractNotes_eq]
  exact hp.filter _

/-- The notes text is independent of the iteration order when sub-notes are off. -/
theorem notes_perm_invariant (main : String) (files files' : List (String × Str))
    (hn : (files.map (·.1)).Nodup) (hp : files.Perm files') :
    (extractNotes false main files).1 = (extractNotes false main files').1 := by
  -- only a file with the main notes path is selected, and the paths are distinct
  rw [extractNotes_eq, extractNotes_eq, filter_eq_of_perm_of_key hn hp _ main (by simp)]

/-- With sub-notes ON too: the files are visited in path order, so the notes text (and the
remaining files) are a function of the *set* of rendered files.  (On the pinned tree the text
depended on the map's iteration order: repaired in /repo, see known_findings.json.) -/
theorem notes_sorted_perm_invariant (subNotes : Bool) (main : String) (files files' : List (String × Str))
    (hn : (files.map (·.1)).Nodup) (hp : files.Perm files') :
    extractNotesSorted subNotes main files = extractNotesSorted subNotes main files' := by
  unfold extractNotesSorted
  rw [mergeSort_keyLe_perm_invariant files files' hn hp]

/-- the two orders of the old counterexample now give the same text -/
example :
    (extractNotesSorted true "p/templates/NOTES.txt"
        [("p/templates/NOTES.txt", ['A']), ("p/charts/s/templates/NOTES.txt", ['B'])]).1 =
    (extractNotesSorted true "p/templates/NOTES.txt"
        [("p/charts/s/templates/NOTES.txt", ['B']), ("p/templates/NOTES.txt", ['A'])]).1 :=
  congrArg Prod.fst (notes_sorted_perm_invariant true _ _ _ (by decide) (List.Perm.swap _ _ _))

/-! ## 2. What chart content can reach: regenerated function-map facts -/

/-- `env` and `expandenv` -- the sprig functions reading the process environment -- are removed. -/
theorem env_functions_removed : Helm.Gen.sprigDeleted = Helm.Spec.sprigDeleted := rfl

/-- the functions Helm adds are the documented pure ones plus `lookup` (cluster, opt-in) -/
theorem extra_functions_are_spec : Helm.Gen.extraFuncs = Helm.Spec.extraFuncs := rfl

/-- DNS resolution is stubbed unless `EnableDNS` is set. -/
theorem dns_stubbed_unless_enabled : Helm.Gen.dnsStubbedUnlessEnabled = true := rfl

/-- Templates are parsed and executed by ranging over the sorted key list (the model's
`sortTemplates` order), never over the template map itself. -/
theorem render_loops_range_over_sorted_keys :
    Helm.Gen.renderLoops = ["Parse:keys", "ExecuteTemplate:keys"] ∧ Helm.Gen.renderKeysFrom = "sortTemplates" :=
  ⟨rfl, rfl⟩

end Helm.Props.C05
