/-
C09  Concurrent installs/upgrades of one release cannot both proceed.
Property theorems only (model: Helm/Model/Conc.lean; invariants: Helm/Lemmas/Conc.lean, ConcQ.lean).

Three layers:
 * for ANY number of concurrent operations, ANY interleaving and ANY well-formed initial history
   (an invariant over the ledger and all processes, Helm/Lemmas/ConcQ.lean, by induction over
   the schedule): at most one operation is ever between its Create and its final Update, and
   once all have returned the history has unique revisions, at most one deployed revision and
   nothing pending (`history_wellformed_at_quiescence`);
 * for ANY number of concurrent operations, ANY interleaving of their storage and cluster calls
   and ANY initial history (induction over the schedule): every revision record is created by
   exactly one operation, an operation that fails has touched no release resource and created
   no record, and resources are touched only after the operation's own record was stored;
 * for the property's own quantifier -- all interleavings of two operations, and
   preemption-bounded schedules of three, from an empty or a deployed history -- as instances
   of the two layers above: an operation returns within six of its own steps whatever the
   others do (Helm/Lemmas/ConcBound.lean), so in every enumerated schedule everybody has
   returned, and the Boolean post-condition `quiescentOk` is what the invariants give.  The
   `example`s evaluate the model's executable definitions on single schedules.

Freedom from data races is not a statement about this model: the correspondence runs the
real drivers from several goroutines under the Go race detector (thorough tier) and is labelled
as testing.
-/
import Helm.Lemmas.ConcBound
import Helm.Gen.Tables

namespace Helm.Props.C09
open Helm.Ledger Helm.Conc

/-- operations that have not started yet -/
def Fresh (ps : List Proc) : Prop := ∀ p ∈ ps, p.pc = .start ∧ p.made = none ∧ p.touched = false

/-- Under every interleaving of any number of operations, from any history: no two operations
created the same revision's record, and every record an operation claims is in the history. -/
theorem each_revision_has_one_creator (l : Ledger) (ps : List Proc) (hf : Fresh ps) (schedule : List Nat) :
    ((run ⟨l, ps⟩ schedule).procs.filterMap (·.made)).Pairwise (· ≠ ·) ∧
    ∀ p ∈ (run ⟨l, ps⟩ schedule).procs, ∀ r, p.made = some r → r ∈ Helm.Conc.revs (run ⟨l, ps⟩ schedule).ledger := by
  have h := run_inv ⟨l, ps⟩ schedule (init_inv l ps hf)
  exact ⟨h.2, fun p hp r hr => (h.1 p hp).1 r hr⟩

/-- An operation that returned an error (already exists / operation in progress / name in use)
has not created, changed or deleted any release resource and has stored no record. -/
theorem losers_touch_nothing (l : Ledger) (ps : List Proc) (hf : Fresh ps) (schedule : List Nat) :
    ∀ p ∈ (run ⟨l, ps⟩ schedule).procs, p.pc = .done false → p.touched = false ∧ p.made = none := by
  intro p hp hd
  have h := (run_inv ⟨l, ps⟩ schedule (init_inv l ps hf)).1 p hp
  have h3 := h.2.2
  rw [hd] at h3
  exact ⟨h3.2, h3.1⟩

/-- Release resources are touched only by an operation whose own revision record is stored. -/
theorem mutation_only_after_own_record (l : Ledger) (ps : List Proc) (hf : Fresh ps) (schedule : List Nat) :
    ∀ p ∈ (run ⟨l, ps⟩ schedule).procs, p.touched = true → ∃ r, p.made = some r ∧ r ∈ Helm.Conc.revs (run ⟨l, ps⟩ schedule).ledger := by
  intro p hp ht
  have h := (run_inv ⟨l, ps⟩ schedule (init_inv l ps hf)).1 p hp
  have := h.2.1 ht
  cases hm : p.made with
  | none => rw [hm] at this; cases this
  | some r => exact ⟨r, rfl, h.1 r hm⟩

/-! ### well-formed history at quiescence, unbounded -/

/-- ANY number of operations, ANY schedule, ANY well-formed initial history (unique revisions
from 1, at most one deployed, nothing pending): once every operation has returned the history
has unique revisions, at most one deployed revision and no pending revision. -/
theorem history_wellformed_at_quiescence (l : Ledger) (ps : List Proc) (schedule : List Nat) (hl : WF0 l)
    (hf : Fresh ps) (hdone : ∀ p ∈ (run ⟨l, ps⟩ schedule).procs, p.isDone = true) :
    (Helm.Ledger.revs (run ⟨l, ps⟩ schedule).ledger).Nodup ∧
    countDeployed (run ⟨l, ps⟩ schedule).ledger ≤ 1 ∧
    ∀ rec ∈ (run ⟨l, ps⟩ schedule).ledger, rec.status.isPending = false :=
  quiescence_wellformed l ps schedule hl (fun p hp => (hf p hp).1) hdone

/-- At every moment of every execution at most one operation is between storing its own
(pending) record and its final update: the pending check and the atomic create serialise them. -/
theorem at_most_one_operation_in_flight (l : Ledger) (ps : List Proc) (schedule : List Nat) (hl : WF0 l)
    (hf : Fresh ps) :
    (run ⟨l, ps⟩ schedule).procs.Pairwise (fun p q => inflight p = none ∨ inflight q = none) :=
  at_most_one_in_flight l ps schedule hl (fun p hp => (hf p hp).1)

/-- the four histories of the enumeration below are well-formed initial histories -/
example : WF0 [] ∧ WF0 [⟨1, .deployed, 1⟩] ∧ WF0 [⟨1, .superseded, 1⟩, ⟨2, .deployed, 2⟩] ∧
    WF0 [⟨1, .deployed, 1⟩, ⟨2, .failed, 2⟩] := by
  refine ⟨⟨by decide, by decide, by decide, by decide⟩, ⟨by decide, by decide, by decide, by decide⟩,
    ⟨by decide, by decide, by decide, by decide⟩, ⟨by decide, by decide, by decide, by decide⟩⟩

/-! ### the property's quantifier -/

def kinds2 : List (Kind × Kind) := [(.install, .install), (.install, .upgrade), (.upgrade, .install), (.upgrade, .upgrade)]

/-- empty, deployed, deployed after an upgrade, a failed upgrade on top of the deployed one -/
def histories : List Ledger :=
  [[], [⟨1, .deployed, 1⟩], [⟨1, .superseded, 1⟩, ⟨2, .deployed, 2⟩], [⟨1, .deployed, 1⟩, ⟨2, .failed, 2⟩]]

private theorem histories_wf : ∀ l ∈ histories, WF0 l := by
  intro l hl
  simp only [histories, List.mem_cons, List.not_mem_nil, or_false] at hl
  rcases hl with rfl | rfl | rfl | rfl <;> exact ⟨by decide, by decide, by decide, by decide⟩

def allDone (w : World) : Bool := w.procs.all (·.isDone)

/-- the enumeration is complete: C(12, 6) schedules -/
example : (interleavings 6 6).length = 924 := by decide +kernel

/-- every interleaving of two operations (6 steps each suffice for either kind) -/
def check2 : Bool :=
  histories.all fun l => kinds2.all fun k =>
    (interleavings 6 6).all fun s =>
      let w := run ⟨l, [{ kind := k.1, payload := 10 }, { kind := k.2, payload := 20 }]⟩ s
      allDone w && quiescentOk w

/-- All interleavings of two concurrent install/upgrade operations, from each of the four
histories: everybody returns and the history is well-formed with at most one deployed revision,
one creator per revision, losers untouched.  (924 schedules x 4 kind pairs x 4 histories.) -/
theorem two_operations_all_interleavings : check2 = true := by
  simp only [check2, allDone, List.all_eq_true]
  intro l hl k _ s hs
  obtain ⟨h0, h1⟩ := count_of_mem_interleavings hs
  refine returned_and_quiescentOk l _ s (histories_wf l hl) (by simp) ?_
  intro i hi
  have : i = 0 ∨ i = 1 := by simp only [List.length_cons, List.length_nil] at hi; omega
  rcases this with rfl | rfl <;> omega

/-- schedules of three operations with two preemptions: p runs a steps, q runs b steps, r runs to
the end, then q, then p -/
def schedules3 : List (List Nat) :=
  [[0, 1, 2], [0, 2, 1], [1, 0, 2], [1, 2, 0], [2, 0, 1], [2, 1, 0]].flatMap fun perm =>
    match perm with
    | [p, q, r] =>
      (List.range 7).flatMap fun a => (List.range 7).map fun b =>
        List.replicate a p ++ List.replicate b q ++ List.replicate 6 r ++ List.replicate 6 q ++ List.replicate 6 p
    | _ => []

def kinds3 : List (Kind × Kind × Kind) :=
  [(.install, .install, .install), (.upgrade, .upgrade, .upgrade), (.install, .upgrade, .upgrade), (.upgrade, .install, .upgrade)]

def check3 : Bool :=
  histories.all fun l => kinds3.all fun k =>
    schedules3.all fun s =>
      let w := run ⟨l, [{ kind := k.1, payload := 10 }, { kind := k.2.1, payload := 20 }, { kind := k.2.2, payload := 30 }]⟩ s
      allDone w && quiescentOk w

theorem three_operations_two_preemptions : check3 = true := by
  simp only [check3, allDone, List.all_eq_true]
  intro l hl k _ s hs
  refine returned_and_quiescentOk l _ s (histories_wf l hl) (by simp) ?_
  intro i hi
  simp only [List.length_cons, List.length_nil] at hi
  simp only [schedules3, List.mem_flatMap] at hs
  obtain ⟨perm, hperm, hs⟩ := hs
  simp only [List.mem_cons, List.not_mem_nil, or_false] at hperm
  rcases hperm with rfl | rfl | rfl | rfl | rfl | rfl <;>
  · simp only [List.mem_flatMap, List.mem_map] at hs
    obtain ⟨a, _, b, _, rfl⟩ := hs
    exact six_steps_each a b _ _ _ i (by omega)

/-- non-vacuity: in some interleaving one upgrade wins, in another the other one does -/
example :
    let w0 : World := ⟨[⟨1, .deployed, 1⟩], [{ kind := .upgrade, payload := 10 }, { kind := .upgrade, payload := 20 }]⟩
    (run w0 [0, 1, 0, 1, 0, 1, 0, 1, 0, 1]).procs.map (·.pc) = [.done true, .done false] ∧
    (run w0 [1, 0, 1, 0, 1, 0, 1, 0, 1, 0]).procs.map (·.pc) = [.done false, .done true] ∧
    (run w0 [0, 0, 0, 0, 0, 1, 1, 1, 1, 1]).procs.map (·.pc) = [.done true, .done true] := by decide

/-! ### history limits (outside the interleaving model): what pruning may touch -/

/-- Pruning for a create of revision `newest` only ever chooses older revisions: the record of a concurrent
operation that has already created `newest` (or a later revision) is never removed, so the create that follows
fails with already-exists as it does without a limit. -/
theorem pruning_spares_concurrent_records (l : Helm.Ledger.Ledger) (maximum newest : Nat) :
    ∀ r ∈ Helm.Ledger.toDeleteBelow l maximum newest, r < newest := by
  intro r hr
  unfold Helm.Ledger.toDeleteBelow at hr
  split at hr
  · simp at hr
  · simpa using List.all_eq_true.mp List.all_takeWhile r (List.mem_of_mem_take hr)

/-- non-vacuity, and the defect the bound repairs: history `[v1 deployed, v2 pending-upgrade]` (the winner has
created v2), the loser creates v2 under --history-max 1: without the bound the winner's record is the candidate,
with it nothing is -/
example :
    Helm.Ledger.toDelete [⟨1, .deployed, 1⟩, ⟨2, .pendingUpgrade, 2⟩] 0 = [2] ∧
    Helm.Ledger.toDeleteBelow [⟨1, .deployed, 1⟩, ⟨2, .pendingUpgrade, 2⟩] 0 2 = [] := by decide

/-- When every stored revision is older than the one being created (any operation running alone), the bound
changes nothing: the choice is the one the ledger theorems of C01 are about. -/
theorem pruning_bound_inert_when_alone (l : Helm.Ledger.Ledger) (maximum newest : Nat)
    (h : ∀ r ∈ l, r.rev < newest) :
    Helm.Ledger.toDeleteBelow l maximum newest = Helm.Ledger.toDelete l maximum := by
  unfold Helm.Ledger.toDeleteBelow Helm.Ledger.toDelete
  split
  · rfl
  · -- every candidate is a stored revision, hence below `newest`: `takeWhile` keeps them all
    have hall : ∀ x ∈ (Helm.Ledger.sortAsc (l.map (·.rev))).filter (fun r => some r ≠ (Helm.Ledger.deployed? l).map (·.rev)),
        decide (x < newest) = true := by
      intro x hx
      obtain ⟨r, hr, rfl⟩ := List.mem_map.mp ((Helm.Ledger.mem_sortAsc _ _).mp (List.mem_filter.mp hx).1)
      simpa using h r hr
    have := List.takeWhile_append_of_pos (l₂ := []) hall
    simp only [List.append_nil, List.takeWhile_nil] at this
    simp only [this]

/-- The bound in the source (regenerated from pkg/storage/storage.go at every run): Create hands the new
revision to the pruning, and the pruning loop stops at it. -/
theorem pruning_bound_in_source :
    Helm.Gen.pruneCallArgs = "rls.Name, s.MaxHistory - 1, rls.Version" ∧
    Helm.Gen.pruneStopCondition = "len(h)-len(toDelete) == maximum || rel.Version >= newest" :=
  ⟨rfl, rfl⟩

/-- The tie to the source of the in-progress test: the statuses `Status.IsPending` counts as an operation in
flight are the three pending ones -- an upgrade refuses to start over any of them, the rollback of an atomic
upgrade included (regenerated from pkg/release/v1/status.go at every run). -/
theorem pending_statuses_are_the_three :
    Helm.Gen.pendingStatuses = ["StatusPendingInstall", "StatusPendingRollback", "StatusPendingUpgrade"] :=
  rfl

end Helm.Props.C09
