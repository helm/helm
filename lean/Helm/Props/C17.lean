/-
C17  Provenance verification accepts exactly untampered, trusted-key-signed charts.
Cryptography (signature check, SHA-256) and framing (clearsign decoding, YAML of the message
block) are parameters `p : Prims K`; their assumed properties are explicit hypotheses of the
corollaries.
-/
import Helm.Model.Prov

namespace Helm.Props.C17
open Helm.Prov

/-- Verification succeeds **iff** the provenance file decodes to a signed block, the signature
over the block's signed text is valid under the keyring, the message parses, and it lists, under
the archive's file name, `sha256:` + the SHA-256 of the archive's actual bytes. -/
theorem verify_iff {K} (p : Prims K) (kr : K) (archive : Bytes) (base : String) (prov : Bytes) :
    verify p kr archive base prov = .ok ↔
      ∃ b sums, p.decode prov = some b ∧ p.sigValid kr b.signed b.sig = true ∧
        p.parseSums b.plaintext = some sums ∧
        lookup base sums = some ("sha256:" ++ p.sha256hex archive) := by
  unfold verify
  cases p.decode prov with
  | none => simp
  | some b =>
    cases hs : p.sigValid kr b.signed b.sig with
    | false => simp [hs]
    | true =>
      cases hp : p.parseSums b.plaintext with
      | none => simp [hs, hp]
      | some sums => cases hl : lookup base sums <;> simp [hs, hp, hl]

/-- Any change to the archive bytes makes verification fail -- given that SHA-256 does not
collide on the two archives (the cryptographic assumption, stated as a hypothesis). -/
theorem tampered_archive_fails {K} (p : Prims K) (kr : K) (a a' : Bytes) (base : String) (prov : Bytes)
    (hok : verify p kr a base prov = .ok) (hno : p.sha256hex a ≠ p.sha256hex a') :
    verify p kr a' base prov ≠ .ok := by
  intro h'
  obtain ⟨b, sums, hd, _, hp, hl⟩ := (verify_iff p kr a base prov).mp hok
  obtain ⟨b', sums', hd', _, hp', hl'⟩ := (verify_iff p kr a' base prov).mp h'
  rw [hd] at hd'; cases hd'
  rw [hp] at hp'; cases hp'
  rw [hl] at hl'
  simp only [Option.some.injEq, String.append_right_inj] at hl'
  exact hno hl'

/-- A keyring under which the signature does not check (signer absent, other keys only) fails. -/
theorem untrusted_key_fails {K} (p : Prims K) (kr : K) (a : Bytes) (base : String) (prov : Bytes)
    (h : ∀ b, p.decode prov = some b → p.sigValid kr b.signed b.sig = false) :
    verify p kr a base prov ≠ .ok := by
  intro hok
  obtain ⟨b, _, hd, hs, _, _⟩ := (verify_iff p kr a base prov).mp hok
  rw [h b hd] at hs; cases hs

/-- Any change to the signed text or to the signature fails -- given unforgeability: the keyring
accepts no (text, signature) pair other than the one that was produced by the signer. -/
theorem tampered_provenance_fails {K} (p : Prims K) (kr : K) (a : Bytes) (base : String)
    (prov prov' : Bytes) (b b' : Block) (hd : p.decode prov = some b) (hd' : p.decode prov' = some b')
    (hchanged : b'.signed ≠ b.signed ∨ b'.sig ≠ b.sig)
    (unforgeable : ∀ t s, p.sigValid kr t s = true → t = b.signed ∧ s = b.sig) :
    verify p kr a base prov' ≠ .ok := by
  intro hok
  obtain ⟨b2, _, hd2, hs, _, _⟩ := (verify_iff p kr a base prov').mp hok
  rw [hd'] at hd2; cases hd2
  obtain ⟨h1, h2⟩ := unforgeable _ _ hs
  rcases hchanged with h | h
  · exact h h1
  · exact h h2

/-- A renamed archive fails when the message has no entry under the new name. -/
theorem renamed_archive_fails {K} (p : Prims K) (kr : K) (a : Bytes) (base' : String) (prov : Bytes)
    (h : ∀ b sums, p.decode prov = some b → p.parseSums b.plaintext = some sums → lookup base' sums = none) :
    verify p kr a base' prov ≠ .ok := by
  intro hok
  obtain ⟨b, sums, hd, _, hp, hl⟩ := (verify_iff p kr a base' prov).mp hok
  rw [h b sums hd hp] at hl; cases hl

/-- Sign then verify with the matching key always passes -- given the round-trip properties of
the primitives: the produced file decodes to a block whose signed text checks under the
keyring and whose message lists the archive's digest under its name. -/
theorem sign_then_verify {K} (p : Prims K) (kr : K) (a : Bytes) (base : String) (prov : Bytes) (b : Block)
    (hd : p.decode prov = some b) (hs : p.sigValid kr b.signed b.sig = true)
    (hm : p.parseSums b.plaintext = some [(base, "sha256:" ++ p.sha256hex a)]) :
    verify p kr a base prov = .ok := by
  apply (verify_iff p kr a base prov).mpr
  exact ⟨b, _, hd, hs, hm, by simp [lookup]⟩

/-- With verification required, a download whose verification fails (or whose provenance file
cannot be fetched) returns an error; a passing one succeeds. -/
theorem verify_always_propagates (provFetched : Bool) (v : Verdict) :
    downloadVerify .always provFetched v = .ok ↔ (provFetched = true ∧ v = .ok) := by
  cases provFetched <;> cases v <;> simp [downloadVerify]

theorem verify_always_never_unverified (provFetched : Bool) (v : Verdict) :
    downloadVerify .always provFetched v ≠ .okUnverified := by
  cases provFetched <;> cases v <;> simp [downloadVerify]

/-- non-vacuity: a toy instantiation of the primitives on which `verify` accepts -/
example :
    let p : Prims Nat := { decode := fun x => some ⟨x, x, [1]⟩, sigValid := fun k _ s => k == 7 && s == [1],
                           sha256hex := fun _ => "ab", parseSums := fun _ => some [("c-1.tgz", "sha256:ab")] }
    verify p 7 [1, 2] "c-1.tgz" [9] = .ok ∧ verify p 8 [1, 2] "c-1.tgz" [9] = .badSignature ∧
    verify p 7 [1, 2] "d-1.tgz" [9] = .noSumForFile := by decide

end Helm.Props.C17
