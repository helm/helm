/-
C01  Release revision ledger stays well-formed under any history and faults.
Property theorems only.  Model: Helm/Model/Ledger.lean (the four action programs at the level
of their storage calls; every cluster phase and every storage write is a decision
ok / fail / crash).
-/
import Helm.Lemmas.LedgerOps
import Helm.Gen.Tables
import Helm.Spec.Skeletons

namespace Helm.Props.C01
open Helm.Ledger

/-! ## 1. Revisions stay unique: every storage primitive preserves it, under every decision -/

theorem create_keeps_unique (s : St) (r : Rec) (h : (revs s.ledger).Nodup) :
    (revs (stCreate s r).2.ledger).Nodup := by
  rcases stCreate_spec s r with ⟨_, hr, e⟩ | ⟨_, e⟩ <;> rw [e]
  · exact nodup_append_fresh h hr
  · exact h

theorem update_keeps_revisions (s : St) (r : Rec) : revs (stUpdate s r).2.ledger = revs s.ledger := by
  rcases stUpdate_spec s r with e | e <;> rw [e]
  exact revs_put _ _

theorem delete_keeps_unique (s : St) (rev : Nat) (h : (revs s.ledger).Nodup) :
    (revs (stDelete s rev).2.ledger).Nodup := by
  rcases stDelete_spec s rev with e | e <;> rw [e]
  · exact h.sublist (List.filter_sublist.map _)
  · exact h

/-- create-if-absent: a create on an existing revision fails and changes nothing -/
theorem create_existing_fails (s : St) (r : Rec) (h : (get? s.ledger r.rev).isSome = true) :
    (stCreate s r).1 ≠ .ok ∧ (stCreate s r).2.ledger = s.ledger := by
  rcases stCreate_spec s r with ⟨_, hr, _⟩ | h'
  · exact absurd ((get?_isSome_iff _ _).mp h) hr
  · exact h'

/-! ## 2. Pruning (`Storage.Create` with a history limit) -/

/-- the currently deployed revision is never chosen for deletion -/
theorem prune_never_deployed (l : Ledger) (maximum : Nat) (d : Rec) (hd : deployed? l = some d) :
    d.rev ∉ toDelete l maximum := by
  unfold toDelete
  split
  · simp
  · intro hm
    have := List.mem_of_mem_take hm
    simp [hd] at this

/-- only existing revisions, and no more than needed to get down to the limit -/
theorem prune_bounded (l : Ledger) (maximum : Nat) :
    (∀ r ∈ toDelete l maximum, r ∈ revs l) ∧ (toDelete l maximum).length ≤ l.length - maximum := by
  unfold toDelete
  split
  · simp
  · refine ⟨fun r hr => (mem_sortAsc _ _).mp (List.mem_filter.mp (List.mem_of_mem_take hr)).1, ?_⟩
    simp only [List.length_take]
    omega

/-- oldest first: the candidates are taken from the front of the ascending revision list
(skipping the deployed one) -/
theorem prune_oldest_first (l : Ledger) (maximum : Nat) (h : ¬ l.length ≤ maximum) :
    toDelete l maximum =
      ((sortAsc (l.map (·.rev))).filter fun r => some r ≠ (deployed? l).map (·.rev)).take (l.length - maximum) := by
  simp [toDelete, h]

/-- a failing deletion never makes the prune delete something else instead: the loop only ever
deletes the chosen candidates -/
theorem pruneLoop_only_candidates (cands : List Nat) : ∀ (s : St) (b : Bool) (x : Rec),
    x ∈ s.ledger → x.rev ∉ cands → x ∈ (pruneLoop cands s b).2.ledger := by
  induction cands with
  | nil => intro s b x hx _; simpa [pruneLoop] using hx
  | cons c rest ih =>
    intro s b x hx hnc
    simp only [List.mem_cons, not_or] at hnc
    have hkeep : x ∈ (stDelete s c).2.ledger := by
      rcases stDelete_spec s c with e | e <;> rw [e]
      · exact List.mem_filter.mpr ⟨hx, by simpa using hnc.1⟩
      · exact hx
    rw [pruneLoop]
    rcases h : stDelete s c with ⟨d, s'⟩
    rw [h] at hkeep
    cases d
    · exact ih _ _ x hkeep hnc.2
    · exact ih _ _ x hkeep hnc.2
    · exact hkeep

/-! ## 3. The statement at full strength, and where it fails on this tree

`C01_full`: from every ledger with unique revisions and at most one deployed record, every
operation under every fault plan ends in such a ledger.  It is FALSE for the model (and for the
code): four proved counterexamples follow, each replayed on the implementation at every run. -/

def LInv (l : Ledger) : Prop := (revs l).Nodup ∧ countDeployed l ≤ 1

instance (l : Ledger) : Decidable (LInv l) := by unfold LInv; infer_instance

def C01_full : Prop :=
  ∀ (l : Ledger), LInv l →
    (∀ fl f fn p, LInv (install fl f fn p l).1.ledger) ∧
    (∀ fl f fn p, LInv (upgrade fl f fn p l).1.ledger) ∧
    (∀ fl f, LInv (rollback fl f l).1.ledger) ∧
    (∀ fl f, LInv (uninstall fl f l).1.ledger)

/-- (a) `install --replace` when the last revision is `failed` and an earlier one is still
`deployed`: `replaceRelease` only looks at the last record. -/
theorem counterexample_replace_over_deployed :
    let l : Ledger := [⟨1, .deployed, 1⟩, ⟨2, .failed, 2⟩]
    LInv l ∧ (install { replace := true } {} {} 3 l).2 = .success ∧
    countDeployed (install { replace := true } {} {} 3 l).1.ledger = 2 := by decide

/-- (b) the supersede write of an upgrade fails (its error is ignored) and the following
deployed write succeeds. -/
theorem counterexample_supersede_write_fails :
    let l : Ledger := [⟨1, .deployed, 1⟩]
    LInv l ∧ countDeployed (upgrade {} { st := [.ok, .fail, .ok] } {} 2 l).1.ledger = 2 := by decide

/-- (c) the final record of an install fails (its error is only logged): the operation reports
success but the revision it created is still `pending-install`. -/
theorem counterexample_success_not_recorded :
    (install {} { st := [.ok, .fail] } {} 1 []).2 = .success ∧
    (install {} { st := [.ok, .fail] } {} 1 []).1.ledger = [⟨1, .pendingInstall, 1⟩] := by decide

/-- (d) `upgrade --atomic` with a history limit of 2 whose wait fails: the rollback it starts does
not inherit the limit, three records remain although the deployed one is the newest. -/
theorem counterexample_atomic_exceeds_limit :
    let l : Ledger := [⟨1, .superseded, 1⟩, ⟨2, .deployed, 2⟩]
    (upgrade { atomic := true, maxHistory := 2 } { wait := .fail } {} 3 l).1.ledger =
      [⟨2, .superseded, 2⟩, ⟨3, .failed, 3⟩, ⟨4, .deployed, 2⟩] := by decide

theorem C01_full_is_false : ¬ C01_full := by
  intro h
  have h1 := (h [⟨1, .deployed, 1⟩] (by decide)).2.1 {} { st := [.ok, .fail, .ok] } {} 2
  revert h1; decide

/-! ## 4. What does hold: "after an operation reports success ...", for every well-formed history -/

/-- upgrade on a healthy ledger, nothing failing: new revision = last + 1, it is the deployed
one, the previously deployed one is superseded (literal instances of the theorems below) -/
example :
    (upgrade { nHooks := 1 } {} {} 9 [⟨1, .superseded, 1⟩, ⟨2, .deployed, 2⟩]).1.ledger =
      [⟨1, .superseded, 1⟩, ⟨2, .superseded, 2⟩, ⟨3, .deployed, 9⟩] := by decide

example :
    (rollback { version := 1 } {} [⟨1, .superseded, 7⟩, ⟨2, .deployed, 8⟩]).1.ledger =
      [⟨1, .superseded, 7⟩, ⟨2, .superseded, 8⟩, ⟨3, .deployed, 7⟩] := by decide

example : (uninstall {} {} [⟨1, .superseded, 7⟩, ⟨2, .deployed, 8⟩]).1.ledger = [] := by decide

/-- A fault-free upgrade (no history limit) of ANY history with unique revisions, at most one
deployed revision and a last revision that is not pending: it reports success; the revision it
created is exactly one above the highest and is now the highest; it is the one and only revision
marked deployed; the revision it built on is marked superseded; every other record is untouched;
revisions stay unique. -/
theorem upgrade_success_spec (fl : UpgradeFlags) (p : Nat) (l : Ledger) (lastRec cur : Rec)
    (hdry : fl.dryRun = false) (hmax : fl.maxHistory = 0) (hnd : (revs l).Nodup) (hc : countDeployed l ≤ 1)
    (hlast : last? l = some lastRec) (hnp : lastRec.status.isPending = false) (hcur : currentOf l = some cur) :
    let l' := (upgrade fl {} {} p l).1.ledger
    (upgrade fl {} {} p l).2 = .success ∧
    (revs l').Nodup ∧ maxRev l' = maxRev l + 1 ∧
    get? l' (maxRev l + 1) = some ⟨maxRev l + 1, .deployed, p⟩ ∧
    countDeployed l' = 1 ∧
    get? l' cur.rev = some { cur with status := .superseded } ∧
    ∀ x ∈ l, x.rev ≠ cur.rev → x ∈ l' := by
  obtain ⟨hs, hl'⟩ := upgrade_success fl p l lastRec cur hdry hmax hnd hlast hnp hcur
  obtain ⟨_, hlr⟩ := last?_spec hlast
  have hcm := currentOf_mem hcur
  have hfresh : (⟨lastRec.rev + 1, .deployed, p⟩ : Rec).rev ∉ revs (setStatus l cur.rev .superseded) := by
    rw [revs_setStatus]; exact succ_last_not_mem hlast
  have hnd' := nodup_append_fresh (by rw [revs_setStatus]; exact hnd) hfresh
  intro l'
  rw [show l' = _ from hl', ← hlr]
  refine ⟨hs, hnd', ?_, get?_of_mem_nodup hnd' (x := ⟨lastRec.rev + 1, .deployed, p⟩) (by simp), ?_,
    get?_of_mem_nodup hnd' (x := { cur with status := .superseded })
      (List.mem_append_left _ (List.mem_map.mpr ⟨cur, hcm, by simp⟩)), ?_⟩
  · refine maxRev_append_one _ _ (fun x hx => ?_)
    obtain ⟨y, hy, e⟩ := List.mem_map.mp (revs_setStatus l cur.rev .superseded ▸ mem_revs hx)
    exact e ▸ Nat.le_succ_of_le (rev_le_last hlast y hy)
  · -- the one deployed record was the one built on, and it is superseded now
    have : countDeployed (setStatus l cur.rev .superseded) = 0 := by
      rw [countDeployed, List.countP_eq_zero]
      intro y hy
      obtain ⟨x, hx, rfl⟩ := List.mem_map.mp hy
      by_cases hxc : x.rev = cur.rev
      · simp [hxc]
      · simpa [hxc] using fun hd => hxc (deployed_is_cur hc hcur x hx hd ▸ rfl)
    rw [countDeployed, List.countP_append, ← countDeployed, this]
    simp
  · exact fun x hx hxc => List.mem_append_left _ (List.mem_map.mpr ⟨x, hx, by simp [hxc]⟩)

/-- A fault-free install on a name without history, whatever the flags. -/
theorem install_success_spec (fl : InstallFlags) (p : Nat) (hdry : fl.dryRun = false) :
    (install fl {} {} p []).2 = .success ∧ (install fl {} {} p []).1.ledger = [⟨1, .deployed, p⟩] := by
  have hfresh : (⟨1, .pendingInstall, p⟩ : Rec).rev ∉ revs [] := by simp [revs]
  obtain ⟨s1, e1, H1⟩ := (Healthy.init []).create (r := ⟨1, .pendingInstall, p⟩) hfresh
  obtain ⟨s2, e2, H2⟩ := H1.hooks_last hfresh (if fl.disableHooks then 0 else fl.nHooks) .ok
  obtain ⟨s3, e3, H3⟩ := H2.hooks_last hfresh (if fl.disableHooks then 0 else fl.nHooks) .ok
  obtain ⟨s4, e4, H4⟩ := H3.update_last (r := ⟨1, .deployed, p⟩) hfresh rfl
  have : install fl {} {} p [] = (s4, .success) := by
    cases hr : fl.replace <;>
      simp only [install, hdry, hr, last?_nil, Bool.not_true, Bool.false_eq_true, if_false,
        e1, e2, e3, e4, ite_self]
  rw [this]
  exact ⟨rfl, H4.ledger⟩

/-- A fault-free rollback (no history limit) on ANY history with unique revisions: success; every
revision that was marked deployed is marked superseded; the new revision is one above the highest
and carries the content (chart, values, manifest: the payload) of the target revision, marked
deployed; nothing else changes. -/
theorem rollback_success_spec (fl : RollbackFlags) (l : Ledger) (cur prevRec : Rec)
    (hdry : fl.dryRun = false) (hmax : fl.maxHistory = 0) (hnd : (revs l).Nodup)
    (hlast : last? l = some cur)
    (hprev : get? l (if fl.version = 0 then cur.rev - 1 else fl.version) = some prevRec) :
    (rollback fl {} l).2 = .success ∧
    (rollback fl {} l).1.ledger = supersedeDeployed l ++ [⟨cur.rev + 1, .deployed, prevRec.payload⟩] :=
  rollbackOn_success fl _ l rfl rfl cur prevRec hdry hmax hnd hlast hprev

/-- A fault-free uninstall without keep-history of a release whose last revision is not already
uninstalled, on ANY history with unique revisions and with any number of hooks: success, and no
revision remains. -/
theorem uninstall_success_spec (fl : UninstallFlags) (l : Ledger) (rel : Rec)
    (hdry : fl.dryRun = false) (hkeep : fl.keepHistory = false) (hnd : (revs l).Nodup)
    (hlast : last? l = some rel) (hnu : rel.status ≠ .uninstalled) :
    (uninstall fl {} l).2 = .success ∧ (uninstall fl {} l).1.ledger = [] :=
  uninstallOn_success_purges fl _ l rfl rfl rel hdry hkeep hnd hlast hnu

/-- premises satisfiable: a history with a failed revision on top of the deployed one -/
example : (upgrade {} {} {} 9 [⟨1, .superseded, 1⟩, ⟨2, .deployed, 2⟩, ⟨3, .failed, 3⟩]).1.ledger =
    [⟨1, .superseded, 1⟩, ⟨2, .superseded, 2⟩, ⟨3, .failed, 3⟩, ⟨4, .deployed, 9⟩] := by decide

/-! ## 5. The order of storage and cluster calls in the source (regenerated at every run) -/

/-- The effect skeletons of the four operations are the ones the ledger model was written from:
which storage call, cluster call, hook phase and status assignment comes after which. -/
theorem action_skeletons_are_the_models :
    Helm.Gen.skelInstallRun = Helm.Spec.skelInstallRun ∧
    Helm.Gen.skelInstallPerform = Helm.Spec.skelInstallPerform ∧
    Helm.Gen.skelInstallFail = Helm.Spec.skelInstallFail ∧
    Helm.Gen.skelUpgradePrepare = Helm.Spec.skelUpgradePrepare ∧
    Helm.Gen.skelUpgradePerform = Helm.Spec.skelUpgradePerform ∧
    Helm.Gen.skelUpgradeReleasing = Helm.Spec.skelUpgradeReleasing ∧
    Helm.Gen.skelUpgradeFail = Helm.Spec.skelUpgradeFail ∧
    Helm.Gen.skelRollbackPrepare = Helm.Spec.skelRollbackPrepare ∧
    Helm.Gen.skelRollbackPerform = Helm.Spec.skelRollbackPerform ∧
    Helm.Gen.skelUninstallRun = Helm.Spec.skelUninstallRun :=
  ⟨rfl, rfl, rfl, rfl, rfl, rfl, rfl, rfl, rfl, rfl⟩

/-- ... in particular: the revision record is stored before the operation proper starts, the
previous revision is marked superseded only after the post-upgrade hooks, and the new one is
marked deployed last. -/
theorem upgrade_order_facts :
    Helm.Spec.precedes "Releases.Create" "u.releasingUpgrade" Helm.Gen.skelUpgradePerform = true ∧
    Helm.Spec.precedes "cfg.execHook:HookPostUpgrade" "set originalRelease StatusSuperseded" Helm.Gen.skelUpgradeReleasing = true ∧
    Helm.Spec.precedes "set originalRelease StatusSuperseded" "set upgradedRelease StatusDeployed" Helm.Gen.skelUpgradeReleasing = true := by
  decide +kernel

/-- The history flags are bound to the fields the ledger theorems are about (regenerated from pkg/cmd at every
run). -/
theorem history_flags_bound :
    Helm.Spec.forwardsAll Helm.Gen.upgradeFlags [("history-max", "client.MaxHistory")] = true ∧
    Helm.Spec.forwardsAll Helm.Gen.rollbackFlags [("history-max", "client.MaxHistory")] = true ∧
    Helm.Spec.forwardsAll Helm.Gen.uninstallFlags [("keep-history", "client.KeepHistory")] = true ∧
    Helm.Spec.forwardsAll Helm.Gen.installFlags [("replace", "client.Replace")] = true := by
  decide +kernel

end Helm.Props.C01
