/-
C03  A failed operation is contained; --atomic restores the last good state.
Property theorems only (ledger side; the cluster side is C02's model).
-/
import Helm.Lemmas.LedgerOps
import Helm.Props.C02
import Helm.Gen.Tables
import Helm.Spec.Skeletons

namespace Helm.Props.C03
open Helm.Ledger

/-- a single cluster-side fault: exactly one phase fails, nothing crashes, storage is healthy -/
def SingleClusterFault (f : Faults) : Prop :=
  f.st = [] ∧ f.pre ≠ .crash ∧ f.preHook ≠ .crash ∧ f.resources ≠ .crash ∧ f.wait ≠ .crash ∧
  f.postHook ≠ .crash ∧ f.delete ≠ .crash ∧ f.cleanup ≠ .crash

/-! ## install: the failed revision is recorded as failed; with atomic no history remains

Stated for an empty history (the only one a plain install accepts), every flag combination of
hooks on/off, every failing phase. -/

theorem install_failure_marks_failed (nh : Nat) (f : Faults) (p : Nat)
    (hst : f.st = []) (hpre : f.pre = .ok)
    (hphase : (f.preHook = .fail ∧ 0 < nh) ∨ ((f.preHook = .ok ∨ nh = 0) ∧ f.resources = .fail) ∨
      ((f.preHook = .ok ∨ nh = 0) ∧ f.resources = .ok ∧ f.wait = .fail) ∨
      (f.preHook = .ok ∧ f.resources = .ok ∧ f.wait = .ok ∧ f.postHook = .fail ∧ 0 < nh)) :
    (install { nHooks := nh } f {} p []).2 = .error ∧
    (install { nHooks := nh } f {} p []).1.ledger = [⟨1, .failed, p⟩] := by
  have hfresh : (⟨1, .pendingInstall, p⟩ : Rec).rev ∉ revs [] := by simp [revs]
  obtain ⟨s1, e1, H1⟩ := (Healthy.init []).create (r := ⟨1, .pendingInstall, p⟩) hfresh
  obtain ⟨s2, e2, H2⟩ := H1.hooks_last hfresh nh f.preHook
  obtain ⟨s3, e3, H3⟩ := H2.hooks_last hfresh nh f.postHook
  -- `failRelease` marks the one record failed, whichever phase it is called from
  obtain ⟨s4, e4, H4⟩ := H2.update_last (r := ⟨1, .failed, p⟩) hfresh rfl
  obtain ⟨s5, e5, H5⟩ := H3.update_last (r := ⟨1, .failed, p⟩) hfresh rfl
  have hpre0 : (f.preHook = .ok ∨ nh = 0) → (if nh = 0 then Dec.ok else f.preHook) = .ok := by
    rintro (h | h) <;> simp [h]
  rcases hphase with ⟨h, hn⟩ | ⟨h1, h2⟩ | ⟨h1, h2, h3⟩ | ⟨h1, h2, h3, h4, hn⟩
  · rw [h, if_neg (Nat.ne_of_gt hn)] at e2
    simp only [install, hst, hpre, last?_nil, Bool.not_true, Bool.false_eq_true, if_false,
      e1, h, e2, failInstallOn, e4]
    exact ⟨trivial, H4.ledger⟩
  · rw [hpre0 h1] at e2
    simp only [install, hst, hpre, last?_nil, Bool.not_true, Bool.false_eq_true, if_false,
      e1, e2, h2, failInstallOn, e4]
    exact ⟨trivial, H4.ledger⟩
  · rw [hpre0 h1] at e2
    simp only [install, hst, hpre, last?_nil, Bool.not_true, Bool.false_eq_true, if_false,
      e1, e2, h2, h3, failInstallOn, e4]
    exact ⟨trivial, H4.ledger⟩
  · rw [hpre0 (Or.inl h1)] at e2
    rw [h4, if_neg (Nat.ne_of_gt hn)] at e3
    simp only [install, hst, hpre, last?_nil, Bool.not_true, Bool.false_eq_true, if_false,
      e1, e2, h2, h3, h4, e3, failInstallOn, e5]
    exact ⟨trivial, H5.ledger⟩

/-- premises satisfiable: each of the four failing phases -/
example : (install { nHooks := 2 } { postHook := .fail } {} 7 []).1.ledger = [⟨1, .failed, 7⟩] :=
  (install_failure_marks_failed 2 { postHook := .fail } 7 rfl rfl (Or.inr (Or.inr (Or.inr ⟨rfl, rfl, rfl, rfl, by omega⟩)))).2

/-! ## rollback: hooks (repaired in /repo: it used to leave the revision pending-rollback) -/

/-- A failing pre- (`post = false`) or post-rollback hook, on EVERY history: the rollback returns
an error, the revision it created is recorded as failed, and every other record -- the deployed
one included -- is as it was. -/
theorem rollback_hook_failure_marks_failed (post : Bool) (fl : RollbackFlags) (l : Ledger) (cur prevRec : Rec)
    (hdry : fl.dryRun = false) (hmax : fl.maxHistory = 0) (hhooks : fl.disableHooks = false) (hn : 0 < fl.nHooks)
    (hlast : last? l = some cur)
    (hprev : get? l (if fl.version = 0 then cur.rev - 1 else fl.version) = some prevRec) :
    (rollback fl (if post then { postHook := .fail } else { preHook := .fail }) l).2 = .error ∧
    (rollback fl (if post then { postHook := .fail } else { preHook := .fail }) l).1.ledger =
      l ++ [⟨cur.rev + 1, .failed, prevRec.payload⟩] := by
  have hfresh := succ_last_not_mem hlast
  have hn0 := nHooks_ne_zero hhooks hn
  obtain ⟨s1, e1, H1⟩ := (Healthy.init l).create (r := ⟨cur.rev + 1, .pendingRollback, prevRec.payload⟩) hfresh
  cases post with
  | false =>
    obtain ⟨s2, e2, H2⟩ := H1.hooks_last hfresh (if fl.disableHooks then 0 else fl.nHooks) .fail
    obtain ⟨s3, e3, H3⟩ := H2.update_last (r := ⟨cur.rev + 1, .failed, prevRec.payload⟩) hfresh rfl
    simp only [rollback, rollbackOn, hlast, hprev, hdry, hmax, storageCreate_zero, Bool.false_eq_true,
      if_false, e1, e2, if_neg hn0, e3]
    exact ⟨trivial, H3.ledger⟩
  | true =>
    obtain ⟨s2, e2, H2⟩ := H1.hooks_last hfresh (if fl.disableHooks then 0 else fl.nHooks) .ok
    obtain ⟨s3, e3, H3⟩ := H2.hooks_last hfresh (if fl.disableHooks then 0 else fl.nHooks) .fail
    obtain ⟨s4, e4, H4⟩ := H3.update_last (r := ⟨cur.rev + 1, .failed, prevRec.payload⟩) hfresh rfl
    simp only [rollback, rollbackOn, hlast, hprev, hdry, hmax, storageCreate_zero, Bool.false_eq_true,
      if_false, if_true, e1, e2, ite_self, e3, if_neg hn0, e4]
    exact ⟨trivial, H4.ledger⟩

/-- premises satisfiable, and the next upgrade is no longer refused -/
theorem rollback_hook_failure_instance :
    let l : Ledger := [⟨1, .superseded, 1⟩, ⟨2, .deployed, 2⟩]
    (rollback { version := 1, nHooks := 1 } { preHook := .fail } l).2 = .error ∧
    (rollback { version := 1, nHooks := 1 } { preHook := .fail } l).1.ledger =
      [⟨1, .superseded, 1⟩, ⟨2, .deployed, 2⟩, ⟨3, .failed, 1⟩] ∧
    (upgrade {} {} {} 9 (rollback { version := 1, nHooks := 1 } { preHook := .fail } l).1.ledger).2 = .success := by
  decide

/-- A rollback whose update is rejected (`waitFails = false`) or whose readiness wait fails, on EVERY
history with unique revisions: error; the revision it created is recorded as failed; on a
rejected update the revision rolled back from is marked superseded (what the source does), on a
failed wait it keeps its status; nothing else changes. -/
theorem rollback_resource_failure_marks_failed (waitFails : Bool) (fl : RollbackFlags) (l : Ledger) (cur prevRec : Rec)
    (hdry : fl.dryRun = false) (hmax : fl.maxHistory = 0) (hnd : (revs l).Nodup)
    (hlast : last? l = some cur)
    (hprev : get? l (if fl.version = 0 then cur.rev - 1 else fl.version) = some prevRec) :
    (rollback fl (if waitFails then { wait := .fail } else { resources := .fail }) l).2 = .error ∧
    (rollback fl (if waitFails then { wait := .fail } else { resources := .fail }) l).1.ledger =
      (if waitFails then l else setStatus l cur.rev .superseded) ++ [⟨cur.rev + 1, .failed, prevRec.payload⟩] := by
  have hfresh := succ_last_not_mem hlast
  have hcm := (last?_spec hlast).1
  obtain ⟨s1, e1, H1⟩ := (Healthy.init l).create (r := ⟨cur.rev + 1, .pendingRollback, prevRec.payload⟩) hfresh
  obtain ⟨s2, e2, H2⟩ := H1.hooks_last hfresh (if fl.disableHooks then 0 else fl.nHooks) .ok
  cases waitFails with
  | false =>
    -- performRollback marks the revision rolled back from superseded, then the new one failed
    obtain ⟨s3, e3, H3⟩ := H2.update (r := { cur with status := .superseded })
      (mem_revs (x := cur) (List.mem_append_left _ hcm))
    rw [put_status_front hnd hcm hfresh] at H3
    obtain ⟨s4, e4, H4⟩ := H3.update_last (r := ⟨cur.rev + 1, .failed, prevRec.payload⟩)
      (by rw [revs_setStatus]; exact hfresh) rfl
    simp only [rollback, rollbackOn, hlast, hprev, hdry, hmax, storageCreate_zero, Bool.false_eq_true,
      if_false, e1, e2, ite_self, e3, e4, show (Dec.ok == Dec.crash) = false from rfl, Bool.and_false]
    exact ⟨trivial, H4.ledger⟩
  | true =>
    -- the revision rolled back from is re-recorded as it is
    obtain ⟨s3, e3, H3⟩ := H2.update (r := cur) (mem_revs (List.mem_append_left _ hcm))
    rw [put_of_mem (nodup_append_fresh hnd hfresh) (List.mem_append_left _ hcm)] at H3
    obtain ⟨s4, e4, H4⟩ := H3.update_last (r := ⟨cur.rev + 1, .failed, prevRec.payload⟩) hfresh rfl
    simp only [rollback, rollbackOn, hlast, hprev, hdry, hmax, storageCreate_zero, Bool.false_eq_true,
      if_false, if_true, e1, e2, ite_self, e3, e4]
    exact ⟨trivial, H4.ledger⟩

/-- an instance of each: a rejected update, a failed wait -/
theorem rollback_update_failure_marks_failed :
    let l : Ledger := [⟨1, .superseded, 1⟩, ⟨2, .deployed, 2⟩]
    (rollback { version := 1, nHooks := 1 } { resources := .fail } l).1.ledger =
      [⟨1, .superseded, 1⟩, ⟨2, .superseded, 2⟩, ⟨3, .failed, 1⟩] ∧
    (rollback { version := 1, nHooks := 1 } { wait := .fail } l).1.ledger =
      [⟨1, .superseded, 1⟩, ⟨2, .deployed, 2⟩, ⟨3, .failed, 1⟩] := by decide

/-- With the atomic flag: whichever of the four cluster-side phases of an install fails (any number
of hooks, hooks on or off), if the uninstall it triggers is itself fault-free the install returns
an error and NO history remains for the release. -/
theorem atomic_install_failure_leaves_nothing (at_ : FailAt) (fl : InstallFlags) (p : Nat)
    (hdry : fl.dryRun = false) (hrep : fl.replace = false) (hatomic : fl.atomic = true)
    (hhook : at_.needsHook = true → fl.disableHooks = false ∧ 0 < fl.nHooks) :
    (install fl at_.faults {} p []).2 = .error ∧ (install fl at_.faults {} p []).1.ledger = [] := by
  obtain ⟨s, hsl, hsd, heq⟩ := install_reaches_fail at_ fl {} p hdry hrep hhook
  obtain ⟨h1, h2⟩ := uninstallOn_success_purges { keepHistory := false, disableHooks := fl.disableHooks, nHooks := fl.nHooks }
    s [⟨1, .pendingInstall, p⟩] hsl hsd ⟨1, .pendingInstall, p⟩ rfl rfl (by simp [revs]) (by simp [last?, maxRev, get?])
    (by simp)
  rw [heq, failInstallOn, if_pos hatomic]
  exact ⟨by simp only [h1]; rfl, h2⟩

example : (install { nHooks := 3, atomic := true } FailAt.postHook.faults {} 7 []).1.ledger = [] :=
  (atomic_install_failure_leaves_nothing .postHook { nHooks := 3, atomic := true } 7 rfl rfl rfl (fun _ => ⟨rfl, by decide⟩)).2

/-! ## upgrade: every history -/

/-- EVERY history with unique revisions, every flag combination without --atomic (hooks on or off,
cleanup-on-fail or not), each of the four cluster-side phases failing: the upgrade returns an
error, the revision it created is recorded as failed, and every other record -- the deployed
one included -- is exactly as it was. -/
theorem upgrade_failure_contained (at_ : FailAt) (fl : UpgradeFlags) (fN : Faults) (p : Nat) (l : Ledger)
    (lastRec cur : Rec)
    (hdry : fl.dryRun = false) (hmax : fl.maxHistory = 0) (hatomic : fl.atomic = false)
    (hhook : at_.needsHook = true → fl.disableHooks = false ∧ 0 < fl.nHooks)
    (hnd : (revs l).Nodup)
    (hlast : last? l = some lastRec) (hnp : lastRec.status.isPending = false)
    (hcur : currentOf l = some cur) :
    (upgrade fl at_.faults fN p l).2 = .error ∧
    (upgrade fl at_.faults fN p l).1.ledger = l ++ [⟨lastRec.rev + 1, .failed, p⟩] := by
  obtain ⟨s, hsl, hsd, heq⟩ := upgrade_reaches_fail at_ fl fN p l lastRec cur hdry hmax hhook hlast hnp hcur
  obtain ⟨s3, h3l, _, h3e⟩ := failUpgrade_marks l cur ⟨lastRec.rev + 1, .pendingUpgrade, p⟩ hnd (currentOf_mem hcur)
    (fun x hx => Nat.lt_succ_of_le (rev_le_last hlast x hx)) at_.rerecord s hsl hsd
  rw [heq, h3e]
  simp only [FailAt.cleanup_ok, bne_self_eq_false, Bool.and_false, Bool.false_and, Bool.false_eq_true, if_false, hatomic]
  exact ⟨trivial, h3l⟩

/-- premises satisfiable (a history with a failed revision on top of the deployed one) -/
example :
    (upgrade { nHooks := 1, cleanupOnFail := true } FailAt.wait.faults {} 7 [⟨1, .deployed, 1⟩, ⟨2, .failed, 2⟩]).1.ledger =
      [⟨1, .deployed, 1⟩, ⟨2, .failed, 2⟩, ⟨3, .failed, 7⟩] :=
  (upgrade_failure_contained .wait { nHooks := 1, cleanupOnFail := true } {} 7 [⟨1, .deployed, 1⟩, ⟨2, .failed, 2⟩]
    ⟨2, .failed, 2⟩ ⟨1, .deployed, 1⟩ rfl rfl rfl (by intro h; cases h) (by decide) rfl rfl rfl).2

/-- EVERY history with unique positive revisions, --atomic, each of the four cluster-side phases
failing, the automatic rollback itself fault-free: the upgrade returns an error; the revision it
created stays recorded as failed; every revision that was deployed is superseded; and one further
revision is deployed, carrying the content of `tgt`, the most recent revision that was superseded
or deployed ("the most recent revision that had been deployed"). -/
theorem atomic_upgrade_failure_restores (at_ : FailAt) (fl : UpgradeFlags) (p : Nat) (l : Ledger)
    (lastRec cur tgt : Rec)
    (hdry : fl.dryRun = false) (hmax : fl.maxHistory = 0) (hatomic : fl.atomic = true)
    (hhook : at_.needsHook = true → fl.disableHooks = false ∧ 0 < fl.nHooks)
    (hnd : (revs l).Nodup) (hpos : ∀ x ∈ l, 0 < x.rev)
    (hlast : last? l = some lastRec) (hnp : lastRec.status.isPending = false)
    (hcur : currentOf l = some cur)
    (htm : tgt ∈ l) (hts : tgt.status = .superseded ∨ tgt.status = .deployed)
    (htmax : ∀ x ∈ l, (x.status = .superseded ∨ x.status = .deployed) → x.rev ≤ tgt.rev) :
    (upgrade fl at_.faults {} p l).2 = .error ∧
    (upgrade fl at_.faults {} p l).1.ledger =
      supersedeDeployed (l ++ [⟨lastRec.rev + 1, .failed, p⟩]) ++ [⟨lastRec.rev + 2, .deployed, tgt.payload⟩] := by
  obtain ⟨s, hsl, hsd, heq⟩ := upgrade_reaches_fail at_ fl {} p l lastRec cur hdry hmax hhook hlast hnp hcur
  have hle := rev_le_last hlast
  obtain ⟨s3, h3l, h3d, h3e⟩ := failUpgrade_marks l cur ⟨lastRec.rev + 1, .pendingUpgrade, p⟩ hnd (currentOf_mem hcur)
    (fun x hx => Nat.lt_succ_of_le (hle x hx)) at_.rerecord s hsl hsd
  -- the rollback candidates are those of the history, the failed record is none
  have hcands : (l ++ [(⟨lastRec.rev + 1, .failed, p⟩ : Rec)]).filter (fun r => r.status = .superseded || r.status = .deployed) =
      l.filter (fun r => r.status = .superseded || r.status = .deployed) := by
    simp [List.filter_append]
  have htc : tgt ∈ l.filter (fun r => r.status = .superseded || r.status = .deployed) :=
    List.mem_filter.mpr ⟨htm, by simpa using hts⟩
  have hmaxc : maxRev (l.filter (fun r => r.status = .superseded || r.status = .deployed)) = tgt.rev :=
    maxRev_eq htc fun x hx => htmax x (List.mem_filter.mp hx).1 (by simpa using (List.mem_filter.mp hx).2)
  -- the automatic rollback, from the state the failure left
  have hnd3 := nodup_append_fresh (r := ⟨lastRec.rev + 1, .failed, p⟩) hnd (succ_last_not_mem hlast)
  have hpos' : tgt.rev ≠ 0 := Nat.ne_of_gt (hpos tgt htm)
  obtain ⟨hr1, hr2⟩ := rollbackOn_success
    { version := tgt.rev, disableHooks := fl.disableHooks, nHooks := fl.nHooks, maxHistory := 0 } s3 _ h3l h3d
    ⟨lastRec.rev + 1, .failed, p⟩ tgt rfl rfl hnd3
    (last?_append_one hnd3 (fun x hx => Nat.le_succ_of_le (hle x hx)))
    (by simp only [hpos', if_false]; exact get?_of_mem_nodup hnd3 (List.mem_append_left _ htm))
  rw [heq, h3e]
  simp only [FailAt.cleanup_ok, bne_self_eq_false, Bool.and_false, Bool.false_and, Bool.false_eq_true, if_false, hatomic,
    if_true, h3l, hcands, List.isEmpty_iff, List.ne_nil_of_mem htc, hmaxc]
  exact ⟨by simp only [hr1]; rfl, hr2⟩

/-- premises satisfiable -/
example :
    (upgrade { atomic := true } FailAt.resources.faults {} 7 [⟨1, .superseded, 1⟩, ⟨2, .deployed, 2⟩]).1.ledger =
      [⟨1, .superseded, 1⟩, ⟨2, .superseded, 2⟩, ⟨3, .failed, 7⟩, ⟨4, .deployed, 2⟩] :=
  (atomic_upgrade_failure_restores .resources { atomic := true } 7 [⟨1, .superseded, 1⟩, ⟨2, .deployed, 2⟩]
    ⟨2, .deployed, 2⟩ ⟨2, .deployed, 2⟩ ⟨2, .deployed, 2⟩ rfl rfl rfl (by intro h; cases h) (by decide) (by decide) rfl rfl rfl
    (by decide) (Or.inr rfl) (by decide)).2

/-! ## upgrade and atomic on a concrete history (instances of the theorems above) -/

/-- every failing phase: error, new revision failed, the deployed revision keeps its status -/
theorem upgrade_failure_contained_instance :
    let l : Ledger := [⟨1, .superseded, 1⟩, ⟨2, .deployed, 2⟩]
    ∀ f ∈ [({ preHook := .fail } : Faults), { resources := .fail }, { wait := .fail }, { postHook := .fail }],
      (upgrade { nHooks := 1 } f {} 3 l).2 = .error ∧
      (upgrade { nHooks := 1 } f {} 3 l).1.ledger = [⟨1, .superseded, 1⟩, ⟨2, .deployed, 2⟩, ⟨3, .failed, 3⟩] := by
  decide

/-- atomic: a new deployed revision with the content of the last good one -/
theorem atomic_upgrade_restores_instance :
    let l : Ledger := [⟨1, .superseded, 1⟩, ⟨2, .deployed, 2⟩]
    ∀ f ∈ [({ preHook := .fail } : Faults), { resources := .fail }, { wait := .fail }, { postHook := .fail }],
      (upgrade { nHooks := 1, atomic := true } f {} 3 l).1.ledger =
        [⟨1, .superseded, 1⟩, ⟨2, .superseded, 2⟩, ⟨3, .failed, 3⟩, ⟨4, .deployed, 2⟩] := by
  decide

/-- atomic install: no history remains -/
theorem atomic_install_leaves_nothing_instance :
    ∀ f ∈ [({ preHook := .fail } : Faults), { resources := .fail }, { wait := .fail }, { postHook := .fail }],
      (install { nHooks := 1, atomic := true } f {} 3 []).2 = .error ∧
      (install { nHooks := 1, atomic := true } f {} 3 []).1.ledger = [] := by
  decide

/-! ### the cluster side: --atomic restores the last good state, cleanup-on-fail removes what was created -/

open Helm.Cluster in
/-- A failed upgrade with --atomic is, on the cluster, the failed update (and the optional
cleanup) followed by the rollback from the failed revision's manifest to the manifest of the
newest superseded/deployed revision ... -/
theorem atomic_failure_is_rollback (rel ns : String) (to force cleanup : Bool) (prev current target : List Obj)
    (s : Store) (rej : List String) (adopted : List Obj) (log : List Ev)
    (hp : preflight to rel ns ((target.map (stamp rel ns)).filter fun t => (current.find? (·.key = t.key)).isNone) s = (some adopted, log))
    (herr : (updateR rej force false (current ++ adopted) (target.map (stamp rel ns)) s).err = true) :
    let r := updateR rej force false (current ++ adopted) (target.map (stamp rel ns)) s
    let s1 := if cleanup then r.created.foldl (fun acc k => acc.del k) r.store else r.store
    (upgradeFull rel ns to force cleanup (some prev) current target s rej).store =
      (rollbackCluster rel ns force target prev s1 rej).store ∧
    (upgradeFull rel ns to force cleanup (some prev) current target s rej).ok = false := by
  intro r s1
  unfold upgradeFull
  simp only [hp]
  have : (!(updateR rej force false (current ++ adopted) (List.map (stamp rel ns) target) s).err) = false := by
    simp [herr]
  simp only [this, Bool.false_eq_true, if_false]
  exact ⟨rfl, trivial⟩

open Helm.Cluster in
/-- ... so when that rollback goes through, the previous manifest is in force again: each of its
resources exists with what the manifest specifies (merge computed against the live object),
whatever the failed upgrade created and the previous manifest does not have is gone unless the
live object carries the keep policy, and nothing outside the two manifests was touched by it. -/
theorem atomic_restores_previous_manifest (rel ns : String) (force : Bool) (failed prev : List Obj)
    (s1 : Store) (rej : List String) (hn : Helm.Props.C02.DistinctKeys prev)
    (hok : (rollbackCluster rel ns force failed prev s1 rej).ok = true) :
    (∀ t ∈ prev, ∃ o, (rollbackCluster rel ns force failed prev s1 rej).store.get? t.key = some o ∧
      (fullMerge force false t = true → o.covers (stamp rel ns t))) ∧
    (∀ o ∈ failed, o.key ∉ Helm.Props.C02.keys prev →
      (rollbackCluster rel ns force failed prev s1 rej).store.get? o.key = none ∨
      ∃ live, s1.get? o.key = some live ∧ keepLive live = true ∧
        (rollbackCluster rel ns force failed prev s1 rej).store.get? o.key = some live) ∧
    (∀ k, k ∉ Helm.Props.C02.keys prev → k ∉ Helm.Props.C02.keys failed →
      (rollbackCluster rel ns force failed prev s1 rej).store.get? k = s1.get? k) :=
  ⟨Helm.Props.C02.rollback_targets_present rel ns force failed prev s1 rej hn hok,
   Helm.Props.C02.rollback_removed_deleted rel ns force failed prev s1 rej hok,
   fun k h1 h2 => Helm.Props.C02.rollback_frame rel ns force failed prev s1 rej k h1 h2⟩

open Helm.Cluster in
/-- cleanup-on-fail: everything the failed update listed as created is gone afterwards (no
rollback requested). -/
theorem cleanup_removes_created (rel ns : String) (to force : Bool) (current target : List Obj)
    (s : Store) (rej : List String) (adopted : List Obj) (log : List Ev)
    (hp : preflight to rel ns ((target.map (stamp rel ns)).filter fun t => (current.find? (·.key = t.key)).isNone) s = (some adopted, log))
    (herr : (updateR rej force false (current ++ adopted) (target.map (stamp rel ns)) s).err = true) :
    ∀ k ∈ (updateR rej force false (current ++ adopted) (target.map (stamp rel ns)) s).created,
      (upgradeFull rel ns to force true none current target s rej).store.get? k = none := by
  intro k hk
  unfold upgradeFull
  simp only [hp]
  have : (!(updateR rej force false (current ++ adopted) (List.map (stamp rel ns) target) s).err) = false := by
    simp [herr]
  simp only [this, Bool.false_eq_true, if_false, if_true]
  generalize (updateR rej force false (current ++ adopted) (List.map (stamp rel ns) target) s).store = st
  generalize hc : (updateR rej force false (current ++ adopted) (List.map (stamp rel ns) target) s).created = cr at hk
  clear hc herr this hp
  induction cr generalizing st with
  | nil => cases hk
  | cons c rest ih =>
    simp only [List.foldl_cons]
    by_cases hkc : k = c
    · subst hkc
      -- later deletions cannot bring it back
      have hstay : ∀ (ks : List String) (t : Store), t.get? k = none → (ks.foldl (fun acc x => acc.del x) t).get? k = none := by
        intro ks
        induction ks with
        | nil => intro t ht; exact ht
        | cons x xs ihx =>
          intro t ht
          simp only [List.foldl_cons]
          apply ihx
          by_cases hx : k = x
          · subst hx; exact Store.get?_del_self t k
          · rw [Store.get?_del_ne t hx]; exact ht
      exact hstay rest _ (Store.get?_del_self st k)
    · rcases List.mem_cons.mp hk with h | h
      · exact absurd h hkc
      · exact ih _ h

/-! ### the failure paths in the source (regenerated at every run) -/

/-- What a failing upgrade / rollback / install writes, and in which order, is what the model's
failure closures were written from; a failed upgrade never marks the original revision
superseded before its post-upgrade hooks have passed. -/
theorem failure_paths_skeleton :
    Helm.Gen.skelUpgradeFail = Helm.Spec.skelUpgradeFail ∧
    Helm.Gen.skelInstallFail = Helm.Spec.skelInstallFail ∧
    Helm.Gen.skelUpgradeReleasing = Helm.Spec.skelUpgradeReleasing ∧
    Helm.Gen.skelRollbackPerform = Helm.Spec.skelRollbackPerform ∧
    Helm.Gen.skelRollbackFail = Helm.Spec.skelRollbackFail ∧
    Helm.Spec.precedes "cfg.execHook:HookPostUpgrade" "set originalRelease StatusSuperseded" Helm.Gen.skelUpgradeReleasing = true :=
  ⟨rfl, rfl, rfl, rfl, rfl, by decide +kernel⟩

/-! ### the glue between the actions (regenerated at every run) -/

/-- `helm upgrade --install` hands the flags the failure clauses depend on to the install it falls back to,
each exactly once and from the upgrade flag of the same name; a failed atomic install gives its uninstall, and a
failed atomic upgrade gives its rollback, the operation's own wait strategy and time-out (an action run with no
wait strategy stops at the kube client's "unknown wait strategy" before it has repaired anything), and the
uninstall purges the history. -/
theorem atomic_glue_forwards_flags :
    Helm.Spec.forwardsAll Helm.Gen.upgradeInstallForwards
      [("Atomic", "client.Atomic"), ("Timeout", "client.Timeout"), ("WaitStrategy", "client.WaitStrategy"),
       ("WaitForJobs", "client.WaitForJobs"), ("DisableHooks", "client.DisableHooks"), ("Force", "client.Force"),
       ("Namespace", "client.Namespace")] = true ∧
    Helm.Spec.forwardsAll Helm.Gen.atomicUninstallFields
      [("WaitStrategy", "i.WaitStrategy"), ("Timeout", "i.Timeout"), ("KeepHistory", "false"),
       ("DisableHooks", "i.DisableHooks")] = true ∧
    Helm.Gen.atomicRollbackFields.filter (fun p => p.1 == "WaitStrategy")
      = [("WaitStrategy", "u.WaitStrategy"), ("WaitStrategy", "kube.StatusWatcherStrategy")] ∧
    Helm.Spec.forwardsAll Helm.Gen.atomicRollbackFields
      [("Timeout", "u.Timeout"), ("DisableHooks", "u.DisableHooks"), ("Force", "u.Force"),
       ("WaitForJobs", "u.WaitForJobs")] = true := by
  decide +kernel

/-- The flags of the failure clauses are bound to the fields the theorems are about (regenerated from pkg/cmd
at every run): each flag is bound exactly once in its command, to the same-named field of the action. -/
theorem failure_flags_bound :
    Helm.Spec.forwardsAll Helm.Gen.installFlags [("atomic", "client.Atomic"), ("wait-for-jobs", "client.WaitForJobs"), ("timeout", "client.Timeout")] = true ∧
    Helm.Spec.forwardsAll Helm.Gen.upgradeFlags [("atomic", "client.Atomic"), ("cleanup-on-fail", "client.CleanupOnFail"), ("install", "client.Install"), ("timeout", "client.Timeout")] = true ∧
    Helm.Spec.forwardsAll Helm.Gen.rollbackFlags [("cleanup-on-fail", "client.CleanupOnFail"), ("timeout", "client.Timeout")] = true := by
  decide +kernel

end Helm.Props.C03
