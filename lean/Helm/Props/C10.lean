/-
C10  All storage backends behave as the same faithful key-value store.
-/
import Helm.Model.Storage
import Helm.Lemmas.Storage
import Helm.Lemmas.StorageMem
import Helm.Lemmas.StorageKey

namespace Helm.Props.C10
open Helm.Storage

/-! ## 1. Secret / ConfigMap drivers refine the key-value map -/

/-- One step: on a store written only by the driver, the object-store driver gives the map's
output and moves to the encoding of the map's next state -- for create, get, update, delete,
list and (system-label) query alike. -/
theorem obj_step (getPanics : Bool) (sp : Spec) (op : Op) (hop : OpOK op) :
    (objStep getPanics (enc sp) op).1 = enc (specStep sp op).1 ∧
    OutRel (objStep getPanics (enc sp) op).2 (specStep sp op).2 := by
  cases op with
  | create k r =>
    simp only [objStep, specStep, enc_get?, Option.isSome_map]
    split
    · exact ⟨rfl, Or.inl rfl⟩
    · exact ⟨by simp [enc, objOf], Or.inl rfl⟩
  | get k =>
    simp only [objStep, specStep, enc_get?]
    cases sp.get? k <;> exact ⟨rfl, Or.inl rfl⟩
  | update k r =>
    simp only [objStep, specStep, enc_get?, Option.isSome_map]
    split
    · refine ⟨?_, Or.inl rfl⟩
      simp only [enc, List.map_map]
      apply List.map_congr_left
      intro kv _
      by_cases hk : kv.1 = k <;> simp [hk, objOf]
    · exact ⟨rfl, Or.inr ⟨rfl, rfl⟩⟩
  | delete k =>
    simp only [objStep, specStep, enc_get?]
    cases sp.get? k with
    | some x => exact ⟨List.filter_map, Or.inl rfl⟩
    | none => exact ⟨rfl, Or.inl rfl⟩
  | list st =>
    have hall : (enc sp).filter (fun kv => lookup "owner" kv.2.labels = some "helm") = enc sp := by
      apply List.filter_eq_self.mpr
      intro kv hkv
      obtain ⟨x, _, rfl⟩ := List.mem_map.mp hkv
      simp [owner_helm]
    simp only [objStep, specStep, hall, enc_filterMap_body]
    exact ⟨trivial, Or.inl rfl⟩
  | query q =>
    have hfilter : (enc sp).filter (fun kv => q.all fun (k, v) => lookup k kv.2.labels = some v) =
        enc (sp.filter fun kv => matchLabels (sysLabels kv.2) q) := by
      rw [enc, List.filter_map]
      exact congrArg _ (List.filter_congr fun kv _ => query_match kv.2 q hop)
    have hmap : (sp.map (·.2)).filter (fun r => matchLabels (sysLabels r) q) =
        (sp.filter fun kv => matchLabels (sysLabels kv.2) q).map (·.2) := List.filter_map
    simp only [objStep, specStep, hfilter, hmap, enc_filterMap_body]
    cases sp.filter fun kv => matchLabels (sysLabels kv.2) q <;> exact ⟨rfl, Or.inl rfl⟩

/-- Any sequence of calls, of any length: outputs agree step by step and the final states
correspond. -/
theorem obj_run (getPanics : Bool) (ops : List Op) : ∀ (sp : Spec), (∀ op ∈ ops, OpOK op) →
    (run (objStep getPanics) (enc sp) ops).1 = enc (run specStep sp ops).1 ∧
    OutsRel (run (objStep getPanics) (enc sp) ops).2 (run specStep sp ops).2 :=
  fun sp => run_sim (R := fun s sp => s = enc sp) (Os := OutsRel) trivial (fun _ _ _ _ => And.intro)
    (fun _ sp op hs hop => hs ▸ obj_step getPanics sp op hop) ops (enc sp) sp rfl

/-! corollaries, in the words of the property -/

theorem create_existing_fails (b : Bool) (sp : Spec) (k : String) (r r0 : Rel)
    (h : sp.get? k = some r0) : objStep b (enc sp) (.create k r) = (enc sp, .exists) := by
  simp [objStep, enc_get?, h]

theorem get_missing_fails (b : Bool) (sp : Spec) (k : String) (h : sp.get? k = none) :
    objStep b (enc sp) (.get k) = (enc sp, .notFound) := by
  simp [objStep, enc_get?, h]

theorem get_returns_stored (b : Bool) (sp : Spec) (k : String) (r : Rel) (h : sp.get? k = some r) :
    objStep b (enc sp) (.get k) = (enc sp, .rel r) := by
  simp [objStep, enc_get?, h, objOf]

theorem update_missing_fails_and_changes_nothing (b : Bool) (sp : Spec) (k : String) (r : Rel)
    (h : sp.get? k = none) : objStep b (enc sp) (.update k r) = (enc sp, .other) := by
  simp [objStep, enc_get?, h]

theorem delete_missing_fails_and_changes_nothing (b : Bool) (sp : Spec) (k : String)
    (h : sp.get? k = none) : objStep b (enc sp) (.delete k) = (enc sp, .notFound) := by
  simp [objStep, enc_get?, h]

theorem delete_returns_stored (b : Bool) (sp : Spec) (k : String) (r : Rel) (h : sp.get? k = some r) :
    (objStep b (enc sp) (.delete k)).2 = .rel r := by
  simp [objStep, enc_get?, h, objOf]

/-- premises satisfiable -/
example : Spec.get? [("k", ⟨"a", 1, "deployed", [], "p"⟩)] "k" = some ⟨"a", 1, "deployed", [], "p"⟩ := by decide

/-! ## 2. Undecodable records -/

/-- A list skips unreadable records and returns the others; it never fails or crashes. -/
theorem list_skips_unreadable (b : Bool) (s : Objs) (st : Option String) :
    (objStep b s (.list st)).2 =
      .rels (((s.filter fun kv => lookup "owner" kv.2.labels = some "helm").filterMap (·.2.body)).filter
        fun r => match st with | none => true | some x => r.status = x) := rfl

/-- `Get` on an undecodable record is an error on both object drivers (`Secrets.Get` used to
dereference the nil release: repaired in /repo, see known_findings.json). -/
theorem get_undecodable_is_error (k : String) (l : List (String × String)) :
    (objStep false [(k, ⟨l, none⟩)] (.get k)).2 = .other := by
  simp [objStep, Objs.get?]

/-! ## 3. Memory driver: the key is re-parsed -/

/-- Keys of ordinary names are accepted by `Memory.Get/Delete` (tests on literals) ... -/
example : memKeyOk "sh.helm.release.v1.a.b.v12" = true ∧ memKeyName "sh.helm.release.v1.a.b.v12" = "a.b" := by
  decide +kernel

/-- ... but a valid release name containing ".v" makes `Get/Delete` answer invalid-key although
the record was created: counterexample to the refinement for the memory driver (known finding
C10:memory-dotv-name). The memory driver's refinement theorem therefore needs the guard
`memKeyOk (makeKey r.name r.version)`. -/
theorem counterexample_memory_dotv :
    memKeyOk "sh.helm.release.v1.my.v1app.v1" = false ∧
    (memStep (memStep [] (.create "sh.helm.release.v1.my.v1app.v1" ⟨"my.v1app", 1, "deployed", [], ""⟩)).1
      (.get "sh.helm.release.v1.my.v1app.v1")).2 = .invalidKey := by
  decide +kernel

/-- Under the guard, a record just created is read back (memory driver, fresh name). -/
theorem mem_create_get (m : Mem) (k : String) (r : Rel) (hk : memKeyOk k = true)
    (hn : memKeyName k = r.name) (hfresh : m.recs r.name = none) :
    (memStep (memStep m (.create k r)).1 (.get k)).2 = .rel r := by
  have hnone : m.find? (·.1 = r.name) = none := by simpa [Mem.recs] using hfresh
  simp [memStep, hk, hn, Mem.setRecs, Mem.recs, hnone, List.find?_append]

/-! ## 4. The memory driver refines the key-value map, for keys that parse

`MemOpOK`: the key of a get/delete has exactly one ".v" after the prefix, followed by an integer,
and the key of a create/update names the release it is given with.  Every key storage.go makes
for a release whose name has no ".v" in it meets this (the names that do not are the known
finding above). -/

/-- One call on any reachable state of the memory driver: same answer as the map (lists up to
order), and the states keep corresponding. -/
theorem memory_step (m : Mem) (sp : Spec) (op : Op) (hinv : MInv m) (hrel : (absMem m).Perm sp)
    (hop : MemOpOK op) :
    MInv (memStep m op).1 ∧ (absMem (memStep m op).1).Perm (specStep sp op).1 ∧
    MOutRel (memStep m op).2 (specStep sp op).2 := by
  -- the map's lookup is the lookup among the records of the key's name
  have hget : ∀ k, sp.get? k = Spec.get? ((m.recs (memKeyName k)).getD []) k := fun k =>
    (get?_perm _ _ hrel (absMem_keys_nodup m hinv) k).symm.trans (memLookup m hinv k)
  -- the map is, up to order, the records of a name and a remainder without keys of that name,
  -- which writing the name's records leaves alone
  have hsp := fun n => hrel.symm.trans (absMem_perm m hinv.names n)
  have hrest := others_keyName m hinv
  have hnew := absMem_setRecs m hinv.names
  cases op with
  | create k r =>
    obtain ⟨_, hkn⟩ := hop
    have hg := hget k
    rw [hkn] at hg
    rw [memStep_create, ← hg]
    simp only [specStep]
    cases hs : sp.get? k with
    | some x => exact ⟨hinv, hrel, rfl⟩
    | none =>
      have hp := insertSorted_perm (k, r) ((m.recs r.name).getD [])
      refine ⟨MInv_setRecs m hinv _ _ ?_ ?_, ?_, rfl⟩
      · intro kr hkr
        rcases List.mem_cons.mp (hp.mem_iff.mp hkr) with rfl | hkr
        · exact hkn
        · exact (hinv.recs r.name).1 kr hkr
      · refine (hp.map _).nodup_iff.mpr (List.nodup_cons.mpr ⟨fun hm => ?_, (hinv.recs r.name).2⟩)
        obtain ⟨x, hx, hxk⟩ := List.mem_map.mp hm
        exact (get?_none_iff _ k).mp (hg.symm.trans hs) x hx hxk
      · exact (hnew _ _).trans ((hp.append_right _).trans
          (((hsp r.name).symm.cons _).trans (List.perm_append_singleton _ _).symm))
  | get k =>
    rw [memStep_get m k hop, ← hget k]
    simp only [specStep]
    cases sp.get? k <;> exact ⟨hinv, hrel, rfl⟩
  | update k r =>
    obtain ⟨_, hkn⟩ := hop
    have hg := hget k
    rw [hkn] at hg
    rw [memStep_update, ← hg]
    simp only [specStep]
    cases hs : sp.get? k with
    | none => exact ⟨hinv, hrel, rfl⟩
    | some x =>
      refine ⟨MInv_setRecs m hinv _ _ ?_ ?_, ?_, rfl⟩
      · intro kr hkr
        obtain ⟨e, he, rfl⟩ := List.mem_map.mp hkr
        split
        · exact hkn
        · exact (hinv.recs r.name).1 e he
      · rw [map_keys]
        exact (hinv.recs r.name).2
      · have := (hsp r.name).map fun kv : String × Rel => if kv.1 = k then (k, r) else kv
        rw [List.map_append, map_of_ne _ k _ fun x hx hxk => hrest r.name x hx (by rw [hxk, hkn])] at this
        exact (hnew _ _).trans this.symm
  | delete k =>
    rw [memStep_delete m k hop, ← hget k]
    simp only [specStep]
    cases hs : sp.get? k with
    | none => exact ⟨hinv, hrel, rfl⟩
    | some x =>
      refine ⟨MInv_setRecs m hinv _ _ ?_ ?_, ?_, rfl⟩
      · exact fun kr hkr => (hinv.recs _).1 kr (List.mem_filter.mp hkr).1
      · exact (hinv.recs _).2.sublist (List.filter_sublist.map _)
      · have := (hsp (memKeyName k)).filter fun kv : String × Rel => decide (kv.1 ≠ k)
        rw [List.filter_append, filter_of_ne _ k fun x hx hxk => hrest _ x hx (by rw [hxk])] at this
        exact (hnew _ _).trans this.symm
  | list st =>
    simp only [memStep, specStep, flat_values]
    exact ⟨hinv, hrel, (hrel.map _).filter _⟩
  | query q =>
    simp only [memStep, specStep, flat_values]
    have hp := (hrel.map (·.2)).filter fun r => matchLabels (sysLabels r) q
    rw [hp.isEmpty_eq]
    refine ⟨hinv, hrel, ?_⟩
    split
    · rfl
    · exact hp

/-- Any sequence of such calls on an initially empty memory driver, of any length: the answers
are, step by step, those of a simple map from key to release. -/
theorem memory_refines_map (ops : List Op) (hok : ∀ op ∈ ops, MemOpOK op) :
    MOutsRel (run memStep [] ops).2 (run specStep [] ops).2 :=
  (run_sim (R := fun m sp => MInv m ∧ (absMem m).Perm sp) (Os := MOutsRel) trivial
    (fun _ _ _ _ => And.intro)
    (fun m sp op h hop => and_assoc.mpr (memory_step m sp op h.1 h.2 hop))
    ops [] [] ⟨MInv_empty, List.Perm.refl _⟩ hok).2

/-- The guard is met by every call storage.go makes for a release whose name contains no ".v":
`makeKey name version` parses, and names the release (for every name and version, by the
decimal digits of `toString version`). -/
theorem storage_keys_meet_guard (r : Rel) (h : countDotV r.name.toList = 0) :
    MemOpOK (.create (makeKey r.name r.version) r) ∧ MemOpOK (.update (makeKey r.name r.version) r) ∧
    MemOpOK (.get (makeKey r.name r.version)) ∧ MemOpOK (.delete (makeKey r.name r.version)) := by
  obtain ⟨h1, h2⟩ := makeKey_ok r.name r.version h
  exact ⟨⟨h1, h2⟩, ⟨h1, h2⟩, h1, h1⟩

/-- premises satisfiable: a key as storage.go makes it for an ordinary release name -/
example : MemOpOK (.create (makeKey "my-app" 12) ⟨"my-app", 12, "deployed", [], ""⟩) ∧
    MemOpOK (.get (makeKey "my-app" 12)) := by
  simp only [MemOpOK]
  decide +kernel

end Helm.Props.C10
