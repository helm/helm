/-
C12  Hooks run in weight order, gate the operation, and honour delete policies.
Every hook list (weights incl. negative and equal, names, events, policy combinations), every
set of failing hooks, every set of hook objects left in the cluster by earlier runs.

"Hook resources are never part of the release manifest" is C08's partition theorem
(Helm.Props.C08); it is not repeated here.

One shape where "deleted exactly when the policy says so" fails is proved as a counterexample
and replayed on the implementation (known finding): when the *creation* of a hook is refused
(a same-named object is left from an earlier run and the hook does not carry
before-hook-creation), execHook returns at once and the earlier, successful hooks that carry
hook-succeeded are not deleted -- unlike when a hook's watch fails.
-/
import Helm.Lemmas.Hooks
import Helm.Gen.Tables
import Helm.Spec.Skeletons

namespace Helm.Props.C12
open Helm.Hooks

/-! ### order -/

/-- The hooks of an event are executed in ascending weight, ties by name ... -/
theorem executing_hooks_sorted (hooks : List Hook) (ev : String) :
    (sortHooks (selectHooks hooks ev)).Pairwise hookLe := sortHooks_sorted _

/-- ... where `hookLe` is what it should be ... -/
theorem hookLe_spec (a b : Hook) :
    hookLe a b ↔ a.weight < b.weight ∨ (a.weight = b.weight ∧ a.name ≤ b.name) := hookLe_iff a b

/-- ... they are exactly the hooks that carry the event ... -/
theorem executing_hooks_perm (hooks : List Hook) (ev : String) :
    (sortHooks (selectHooks hooks ev)).Perm (selectHooks hooks ev) := sortHooks_perm _

theorem selected_iff (hooks : List Hook) (ev : String) (h : Hook) :
    h ∈ selectHooks hooks ev ↔ h ∈ hooks ∧ ev ∈ h.events := by
  unfold selectHooks
  simp only [List.mem_flatMap, List.mem_map, List.mem_filter, decide_eq_true_eq]
  constructor
  · rintro ⟨x, hx, e, ⟨he, hev⟩, rfl⟩
    exact ⟨hx, hev ▸ he⟩
  · rintro ⟨hh, he⟩
    exact ⟨h, hh, ev, ⟨he, rfl⟩, rfl⟩

/-- ... and hooks of equal weight and name keep the order of the release's hook list. -/
theorem executing_hooks_stable (hooks : List Hook) (ev : String) (k : Hook) :
    (sortHooks (selectHooks hooks ev)).filter (sameKey k) = (selectHooks hooks ev).filter (sameKey k) :=
  sortHooks_stable _ k

/-- The hook objects created are a prefix of that sorted list: in order, none skipped. -/
theorem created_in_order (fails : String → Bool) (ex : List String) (hooks : List Hook) (ev : String) :
    (execHook fails ex hooks ev).evs.filterMap createOf <+: (sortHooks (selectHooks hooks ev)).map (·.key) :=
  (run_creates fails ex [] _).1

/-- One at a time: each create is followed at once by the watch of that same hook, and nothing
else happens until the watch has returned. -/
theorem one_at_a_time (fails : String → Bool) (ex : List String) (hooks : List Hook) (ev : String) :
    seqOk none (execHook fails ex hooks ev).evs = true :=
  run_sequential fails ex [] _

/-! ### delete policies (hooks carrying before-hook-creation, which is the default) -/

/-- All succeed: each hook is deleted first iff before-hook-creation (always, here), created,
watched; afterwards exactly the hooks whose policy says hook-succeeded are deleted (in reverse). -/
theorem all_succeed_trace (fails : String → Bool) (ex : List String) (hooks : List Hook) (ev : String)
    (hf : ∀ h ∈ hooks, fails h.name = false) (hb : ∀ h ∈ hooks, hasPol h .before = true) :
    let todo := sortHooks (selectHooks hooks ev)
    (execHook fails ex hooks ev).ok = true ∧
    (execHook fails ex hooks ev).evs = todo.flatMap block ++ todo.reverse.flatMap (delIf · .succeeded) := by
  intro todo
  have hm : ∀ h ∈ todo, h ∈ hooks := fun h hh =>
    ((selected_iff hooks ev h).mp ((sortHooks_perm _).subset hh)).1
  obtain ⟨_, h1, h2⟩ := runHooks_append fails todo [] (fun h hh => hf h (hm h hh)) (fun h hh => hb h (hm h hh)) ex []
  rw [List.append_nil] at h1 h2
  exact ⟨h1, h2⟩

/-- The first failing hook: hooks before it ran to completion, it is deleted iff its policy says
hook-failed, the earlier ones iff theirs says hook-succeeded, and no later hook is created. -/
theorem first_failure_trace (fails : String → Bool) (ex : List String) (hooks : List Hook) (ev : String)
    (a b : List Hook) (h : Hook) (hs : sortHooks (selectHooks hooks ev) = a ++ h :: b)
    (hf : ∀ x ∈ a, fails x.name = false) (hh : fails h.name = true)
    (hb : ∀ x ∈ hooks, hasPol x .before = true) :
    (execHook fails ex hooks ev).ok = false ∧
    (execHook fails ex hooks ev).evs =
      a.flatMap block ++ block h ++ delIf h .failed ++ a.flatMap (delIf · .succeeded) := by
  have hm : ∀ x ∈ a ++ h :: b, hasPol x .before = true := fun x hx =>
    hb x ((selected_iff hooks ev x).mp ((sortHooks_perm _).subset (hs ▸ hx))).1
  obtain ⟨ex', h1, h2⟩ := runHooks_append fails a (h :: b) hf (fun x hx => hm x (List.mem_append_left _ hx)) ex []
  have hc := contains_exDel_before ex' h (hm h (by simp))
  rw [execHook, hs, h1, h2, runHooks]
  simp only [hc, hh, Bool.false_eq_true, if_false, if_true]
  simp [block]

/-- Success of the event means every hook was created and none failed. -/
theorem ok_means_all_ran (fails : String → Bool) (ex : List String) (hooks : List Hook) (ev : String)
    (hok : (execHook fails ex hooks ev).ok = true) :
    (execHook fails ex hooks ev).evs.filterMap createOf = (sortHooks (selectHooks hooks ev)).map (·.key) ∧
    ∀ h ∈ hooks, ev ∈ h.events → fails h.name = false := by
  obtain ⟨h1, h2⟩ := (run_creates fails ex [] _).2 hok
  exact ⟨h1, fun h hh he => h2 h ((sortHooks_perm _).symm.subset ((selected_iff hooks ev h).mpr ⟨hh, he⟩))⟩

/-! ### gating -/

/-- A failing pre-hook: the operation fails, the resource phase is never reached (nothing of
the release is created, changed or deleted) and no post-hook runs. -/
theorem pre_hook_failure_gates (fails : String → Bool) (resFails : Bool) (ex : List String) (hooks : List Hook)
    (pre post : String) (h : (execHook fails ex hooks pre).ok = false) :
    operation fails false resFails ex hooks pre post = execHook fails ex hooks pre ∧
    (operation fails false resFails ex hooks pre post).ok = false := by
  unfold operation
  simp [h]

theorem hook_traces_have_no_resource_phase (fails : String → Bool) (ex : List String) (done todo : List Hook) :
    HEv.res ∉ (runHooks fails ex done todo).evs := by
  induction todo generalizing ex done with
  | nil => simp [runHooks, delIf]
  | cons h rest ih =>
    rw [runHooks]
    dsimp only
    split
    · simp [delIf]
    · split
      · simp [delIf]
      · simp [delIf, ih]

theorem pre_hook_failure_no_resource_event (fails : String → Bool) (resFails : Bool) (ex : List String)
    (hooks : List Hook) (pre post : String) (h : (execHook fails ex hooks pre).ok = false) :
    HEv.res ∉ (operation fails false resFails ex hooks pre post).evs := by
  rw [(pre_hook_failure_gates fails resFails ex hooks pre post h).1]
  exact hook_traces_have_no_resource_phase fails ex [] _

/-- A failing post-hook fails the operation. -/
theorem post_hook_failure_fails_operation (fails : String → Bool) (ex : List String) (hooks : List Hook)
    (pre post : String) (h1 : (execHook fails ex hooks pre).ok = true)
    (h2 : (execHook fails (execHook fails ex hooks pre).ex hooks post).ok = false) :
    (operation fails false false ex hooks pre post).ok = false := by
  unfold operation
  simp [h1, h2]

/-- Pre-hooks strictly before the resource phase, post-hooks strictly after. -/
theorem operation_order (fails : String → Bool) (ex : List String) (hooks : List Hook) (pre post : String)
    (h1 : (execHook fails ex hooks pre).ok = true) :
    (operation fails false false ex hooks pre post).evs =
      (execHook fails ex hooks pre).evs ++ [.res] ++ (execHook fails (execHook fails ex hooks pre).ex hooks post).evs := by
  unfold operation
  simp [h1]

/-- With hooks disabled no hook object is created, watched or deleted. -/
theorem disabled_hooks_none_created (fails : String → Bool) (resFails : Bool) (ex : List String)
    (hooks : List Hook) (pre post : String) :
    (operation fails true resFails ex hooks pre post).evs = [.res] := by
  unfold operation
  simp

/-! ### where the full statement fails -/

def hkA : Hook := { key := "a", name := "a", weight := 0, events := ["pre-upgrade"], policies := [.before, .succeeded] }
def hkB : Hook := { key := "b", name := "b", weight := 1, events := ["pre-upgrade"], policies := [.failed] }

/-- `b` is left from an earlier run and does not carry before-hook-creation: its creation is
refused, and `a` -- which succeeded and carries hook-succeeded -- is not deleted. -/
theorem counterexample_succeeded_not_deleted_on_create_failure :
    (execHook (fun _ => false) ["b"] [hkA, hkB] "pre-upgrade").ok = false ∧
    (execHook (fun _ => false) ["b"] [hkA, hkB] "pre-upgrade").evs =
      [.del "a", .create "a", .watch "a", .create "b"] ∧
    "a" ∈ (execHook (fun _ => false) ["b"] [hkA, hkB] "pre-upgrade").ex := by decide

/-- non-vacuity: three hooks, equal and negative weights, the middle one fails -/
example :
    let hs : List Hook := [{ key := "z", name := "z", weight := -1, events := ["e"], policies := [.before, .succeeded] },
      { key := "b", name := "b", weight := 0, events := ["e"], policies := [.before, .failed] }, { key := "a", name := "a", weight := 0, events := ["e", "f"] }]
    (execHook (fun n => n = "b") [] hs "e").evs =
      [.del "z", .create "z", .watch "z", .del "a", .create "a", .watch "a", .del "b", .create "b", .watch "b", .del "b", .del "z"] := by
  decide

/-! ### the shape of execHook and of the operations in the source (regenerated at every run) -/

/-- `execHook`: delete by before-hook-creation, (record,) create, watch; on failure delete the
failed hook by hook-failed and the earlier ones by hook-succeeded; at the end delete by
hook-succeeded -- the calls the model's `runHooks` was written from, in this order. -/
theorem exec_hook_skeleton : Helm.Gen.skelExecHook = Helm.Spec.skelExecHook := rfl

/-- Pre-hooks come before the resource phase and post-hooks after the wait, in all four operations. -/
theorem hooks_around_resources :
    Helm.Spec.precedes "cfg.execHook:HookPreInstall" "KubeClient.Create" Helm.Gen.skelInstallPerform = true ∧
    Helm.Spec.precedes "waiter.Wait" "cfg.execHook:HookPostInstall" Helm.Gen.skelInstallPerform = true ∧
    Helm.Spec.precedes "cfg.execHook:HookPreUpgrade" "KubeClient.Update" Helm.Gen.skelUpgradeReleasing = true ∧
    Helm.Spec.precedes "waiter.Wait" "cfg.execHook:HookPostUpgrade" Helm.Gen.skelUpgradeReleasing = true ∧
    Helm.Spec.precedes "cfg.execHook:HookPreRollback" "KubeClient.Update" Helm.Gen.skelRollbackPerform = true ∧
    Helm.Spec.precedes "waiter.Wait" "cfg.execHook:HookPostRollback" Helm.Gen.skelRollbackPerform = true ∧
    Helm.Spec.precedes "cfg.execHook:HookPreDelete" "u.deleteRelease" Helm.Gen.skelUninstallRun = true ∧
    Helm.Spec.precedes "waiter.WaitForDelete" "cfg.execHook:HookPostDelete" Helm.Gen.skelUninstallRun = true := by
  decide +kernel

/-- `--no-hooks` is bound to DisableHooks in all four commands (regenerated from pkg/cmd at every run). -/
theorem no_hooks_flag_bound :
    Helm.Spec.forwardsAll Helm.Gen.installFlags [("no-hooks", "client.DisableHooks")] = true ∧
    Helm.Spec.forwardsAll Helm.Gen.upgradeFlags [("no-hooks", "client.DisableHooks")] = true ∧
    Helm.Spec.forwardsAll Helm.Gen.rollbackFlags [("no-hooks", "client.DisableHooks")] = true ∧
    Helm.Spec.forwardsAll Helm.Gen.uninstallFlags [("no-hooks", "client.DisableHooks")] = true := by
  decide +kernel

end Helm.Props.C12
