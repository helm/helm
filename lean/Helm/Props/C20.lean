/-
C20  Malformed external input produces an error, never a crash.
The models produce `panic` exactly at the modelled Go panic sites (single-value type
assertions, nil dereferences) and remove it only where the source has `recover`; Lean's
termination checker is the argument for "no unbounded recursion" of the modelled parsers.
Entry points whose parsing is a library (YAML, JSON, tar, OpenPGP, text/template) have no model:
for them the correspondence is robustness testing, labelled so.
-/
import Helm.Model.Strvals
import Helm.Model.Storage
import Helm.Model.Index
import Helm.Model.ImportValues
import Helm.Lemmas.Strvals
import Helm.Lemmas.Index
import Helm.Model.ArchivePath
import Helm.Lemmas.Recursion
import Helm.Gen.Tables

namespace Helm.Props.C20

/-! ## value-flag strings -/

/-- No `--set` / `--set-string` / `--set-file` / `--set-literal` string, on any destination
map, makes the parser crash. -/
theorem strvals_never_panics (m : Helm.Strvals.Mode) (s : List Char) (dest : Helm.Values.Tbl) :
    (Helm.Strvals.parseInto m s dest).2 ≠ some .panic :=
  Helm.Strvals.parseInto_no_panic m s dest

/-- ... and a single key never leaks a panic out of its `recover`. -/
theorem strvals_key_recovers (m : Helm.Strvals.Mode) (fuel : Nat) (data : Helm.Values.Tbl) (level : Nat)
    (s : List Char) : (Helm.Strvals.key m fuel data level s).err ≠ some .panic :=
  Helm.Strvals.key_no_panic m fuel data level s

/-- The depth limit: a name nested deeper than `MaxNestedNameLevel` is rejected at the dot
(no unbounded recursion on the key path). -/
theorem strvals_nesting_limit (m : Helm.Strvals.Mode) (n : Nat) (data : Helm.Values.Tbl) (level : Nat)
    (s k rest : List Char)
    (h : Helm.Strvals.runesUntil (Helm.Strvals.esc m) (Helm.Strvals.keyStop m) s [] = (k, some '.', rest))
    (hl : level + 1 > Helm.Gen.maxNestedNameLevel) :
    Helm.Strvals.key m (n + 1) data level s = ⟨data, some .err, rest⟩ := by
  rw [Helm.Strvals.key, h]
  simp [hl]

/-! ## stored release records -/

/-- A list over stored records never crashes, whatever records are stored, and skips the
unreadable ones. -/
theorem storage_list_never_panics (getPanics : Bool) (s : Helm.Storage.Objs) (st : Option String) :
    ∃ rs, (Helm.Storage.objStep getPanics s (.list st)).2 = .rels rs := ⟨_, rfl⟩

/-- A query never crashes either. -/
theorem storage_query_never_panics (getPanics : Bool) (s : Helm.Storage.Objs) (q : List (String × String)) :
    (Helm.Storage.objStep getPanics s (.query q)).2 ≠ .panic := by
  simp only [Helm.Storage.objStep]
  split <;> simp

/-- No operation of the object drivers crashes (since the repair of `Secrets.Get`) ... -/
theorem storage_step_never_panics (s : Helm.Storage.Objs) (op : Helm.Storage.Op) :
    (Helm.Storage.objStep false s op).2 ≠ .panic := by
  -- every branch of `objStep` ends in a literal answer
  cases op
  all_goals simp only [Helm.Storage.objStep, Bool.false_eq_true, if_false]
  all_goals repeat' split
  all_goals simp

/-- ... in particular `Get` returns an error on an undecodable record on both of them ... -/
theorem get_never_panics (s : Helm.Storage.Objs) (k : String) :
    (Helm.Storage.objStep false s (.get k)).2 ≠ .panic :=
  storage_step_never_panics s (.get k)

/-- ... and so does `Delete` (which reads the record first). -/
theorem delete_never_panics (s : Helm.Storage.Objs) (k : String) :
    (Helm.Storage.objStep false s (.delete k)).2 ≠ .panic :=
  storage_step_never_panics s (.delete k)

/-! ## repository index -/

/-- An index loads without a crash, whatever the versions, their validity and order (null
entries used to crash it: repaired in /repo) ... -/
theorem index_load_with_nulls_never_panics (raw : List (Option Helm.Index.Entry)) :
    Helm.Index.loadEntries raw ≠ .panic := by
  simp [Helm.Index.loadEntries]

theorem index_load_never_panics (raw : List Helm.Index.Entry) :
    Helm.Index.loadEntries (raw.map some) ≠ .panic :=
  index_load_with_nulls_never_panics _

/-- ... and queries on it do not crash. -/
theorem index_get_never_panics (l : List Helm.Index.Entry) (version : String) (ok : Bool) :
    Helm.Index.get (l.map some) version ok ≠ .panic := by
  rw [Helm.Index.get_map_some]
  split
  · exact Helm.Index.tagMatch_ne_panic l version true
  · simp

/-! ## Chart.yaml dependency import-values -/

/-- Well-typed `import-values` (strings, or maps whose `child` and `parent` are strings; any
other entry type is skipped) never crash dependency processing ... -/
theorem import_values_welltyped_ok (l : List Helm.Values.Val)
    (h : ∀ e ∈ l, ∀ t, e = .tbl t →
      Helm.ImportValues.isStr (t.get? "child") = true ∧ Helm.ImportValues.isStr (t.get? "parent") = true) :
    Helm.ImportValues.outcome l = .ok := by
  induction l with
  | nil => rfl
  | cons e r ih =>
    have he : Helm.ImportValues.entryOutcome e = .ok := by
      cases e with
      | tbl t =>
        obtain ⟨h1, h2⟩ := h (.tbl t) List.mem_cons_self t rfl
        simp [Helm.ImportValues.entryOutcome, h1, h2]
      | _ => rfl
    simp only [Helm.ImportValues.outcome, he]
    exact ih (fun x hx => h x (List.mem_cons_of_mem _ hx))

/-- ... and ill-typed ones are an error, not a crash (they were a crash on the pinned tree:
repaired in /repo, see known_findings.json). -/
theorem import_values_never_panics (l : List Helm.Values.Val) : Helm.ImportValues.outcome l ≠ .panic := by
  induction l with
  | nil => simp [Helm.ImportValues.outcome]
  | cons e r ih =>
    unfold Helm.ImportValues.outcome
    cases he : Helm.ImportValues.entryOutcome e with
    | ok => simpa using ih
    | err => simp
    | panic =>
      exfalso
      cases e with
      | tbl t => simp [Helm.ImportValues.entryOutcome] at he; split at he <;> cases he
      | _ => simp [Helm.ImportValues.entryOutcome] at he

theorem import_values_illtyped_is_error :
    Helm.ImportValues.outcome [.tbl (.cons "child" (.num "1") (.cons "parent" (.str "p") .nil))] = .err := by
  rfl

/-! ## archive entry names and sizes: total functions, no crash by construction -/

theorem archive_name_total (n : List Char) :
    (∃ r, Helm.ArchivePath.normName n = .ok r) ∨ (∃ e, Helm.ArchivePath.normName n = .error e) := by
  cases h : Helm.ArchivePath.normName n with
  | ok r => exact Or.inl ⟨r, rfl⟩
  | error e => exact Or.inr ⟨e, rfl⟩

/-! ## template recursion: include and tpl -/

/-- Whatever the templates and values call (any graph of includes and tpl texts over `K`
counter names, cycles included), a render needs at most `K * (max + 1)` nested frames: with
that much stack it returns a result or an error, never the fatal stack overflow.  (`K` is the
number of template names plus one for `tpl`; `max` is `recursionMaxNums`.) -/
theorem render_never_exhausts_stack (p : Helm.Recursion.Prog) (hs : p.shared = true) (K : Nat)
    (hK : ∀ n, p.ctr n < K) (fuel root : Nat) (hf : K * (p.max + 1) < fuel) :
    Helm.Recursion.render p fuel root ≠ .fatal := by
  apply Helm.Recursion.call_not_fatal p hs K hK
  rw [Helm.Recursion.slack_zero]; exact hf

/-- The guard does not refuse harmless charts: when the calls are well-founded (a rank
decreases along every call) and the root's rank is within the limit, the render succeeds. -/
theorem shallow_render_succeeds (p : Helm.Recursion.Prog) (rank : Nat → Nat)
    (hr : ∀ n, ∀ m ∈ p.body n, rank m < rank n) (fuel root : Nat) (h1 : rank root ≤ p.max)
    (h2 : rank root < fuel) : ∃ t, Helm.Recursion.render p fuel root = .ok t :=
  Helm.Recursion.call_ok_of_rank p rank hr fuel _ root (fun _ => by simpa using h1) h2

/-- A cycle is an error, not a hang of the guard: a template that includes itself is refused
by its own counter once the limit is reached (here with the regenerated limit). -/
theorem self_include_is_error :
    Helm.Recursion.render ⟨fun _ => [0], fun n => n, 3, true, fun _ => false⟩ 100 0 = .err 0 := by
  decide

/-- What the limit is for: when a tpl clone starts from fresh counters (the shape of one of the
seeded changes), a value that calls tpl on itself exhausts every stack. -/
theorem unshared_counters_exhaust_every_stack (max : Nat) (fuel : Nat) :
    Helm.Recursion.render ⟨fun _ => [0], fun _ => 0, max, false, fun _ => true⟩ fuel 0 = .fatal := by
  have h : ∀ (fuel : Nat) (cnt : Nat → Nat), cnt 0 ≤ max →
      Helm.Recursion.call ⟨fun _ => [0], fun _ => 0, max, false, fun _ => true⟩ fuel cnt 0 = .fatal := by
    intro fuel
    induction fuel with
    | zero => intro cnt _; rfl
    | succ f ih =>
      intro cnt hc
      have hg : ¬ cnt 0 > max := by omega
      simp only [Helm.Recursion.call, hg, if_false, Bool.not_false, Bool.and_self, if_true, List.foldl_cons,
        List.foldl_nil, Helm.Recursion.seqStep, ih (fun _ => 0) (Nat.zero_le _)]
  exact h fuel _ (Nat.zero_le _)

/-- The limit and the sharing of the counters, as read from the source on this run. -/
theorem recursion_guard_facts :
    Helm.Gen.recursionMaxNums = 1000 ∧ Helm.Gen.tplSharesCounters = true ∧ Helm.Gen.tplCountsNesting = true :=
  ⟨rfl, rfl, rfl⟩

end Helm.Props.C20
