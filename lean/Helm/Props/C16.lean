/-
C16  File-writing operations never escape their directory or exceed size limits.
-/
import Helm.Model.ArchivePath
import Helm.Lemmas.ArchivePath

namespace Helm.Props.C16
open Helm.ArchivePath

/-! ## 1. Every file name a loaded chart exposes is a clean relative path -/

/-- **For every string** used as a tar entry name: if the normaliser of `LoadArchiveFiles`
accepts it, the resulting name is non-empty, not rooted, has no drive prefix and every one of
its `/`-separated components is an ordinary name -- not empty, not `.`, not `..`.
Hence it is lexically inside any destination directory it is joined to. -/
theorem archive_name_safe (entryName n : Str) (h : normName entryName = .ok n) : SafeRel n := by
  obtain ⟨habs, hdot, hpre, hdrive, -, rfl⟩ := (normName_eq_ok_iff entryName n).mp h
  have hn := pathClean_comps _ habs hdot hpre
  obtain ⟨hne, hrel⟩ := not_abs_of_comps fun hm => (hn [] hm).1 rfl
  refine ⟨hne, ?_, fun c hc => ⟨(hn c hc).1, (hn c hc).2.1, (hn c hc).2.2.1⟩, hdrive⟩
  simpa [isAbs] using hrel

/-- non-vacuity and the classic attacks, on literals (tests, labelled as tests) -/
example : normName "c/templates/a.yaml".toList = .ok "templates/a.yaml".toList := by
  -- the literals as lists of characters first: `toList` itself decodes UTF-8 by a well-founded
  -- recursion, which is slow to evaluate
  rw [String.toList_ofList, String.toList_ofList]
  rfl
example : normName "c/../../etc/passwd".toList = .error .parentRef := by
  rw [String.toList_ofList]
  rfl
example : normName "c//etc/passwd".toList = .error .absolute := by
  rw [String.toList_ofList]
  rfl
example : normName "c\\..\\..\\x".toList = .error .parentRef := by
  rw [String.toList_ofList]
  rfl
example : normName "c/x/../../..".toList = .error .parentRef := by
  rw [String.toList_ofList]
  rfl
example : normName "c/./".toList = .error .outsideBase := by
  rw [String.toList_ofList]
  rfl
example : normName "c\\C:\\x".toList = .error .driveName := by
  rw [String.toList_ofList]
  rfl
example : normName "Chart.yaml".toList = .error .outsideBase := by
  rw [String.toList_ofList]
  rfl

/-- `path.Clean` of a relative path is some `..`s followed by ordinary components (the shape
the safety argument rests on). -/
theorem clean_shape (s : Str) :
    ∃ ds ns, cleanComps false (splitOn '/' s) = ds ++ ns ∧ (∀ d ∈ ds, d = dotdot) ∧ (∀ x ∈ ns, Normal x) :=
  cleanComps_shape s

/-! ## 2. Plugin archives: what reaches the secure join is lexically confined -/

theorem plugin_name_safe (dest d : Str) (h : cleanJoinLex dest = .ok d) :
    ':' ∉ d ∧ '\\' ∉ d ∧ dotdot ∉ splitOn '/' d ∧ d.head? ≠ some '/' := by
  simp only [cleanJoinLex, ite_error_eq_ok, Except.ok.injEq, List.contains_iff_mem, Bool.not_eq_true] at h
  obtain ⟨h1, h2, h3, rfl⟩ := h
  refine ⟨?_, ?_, h2, by simpa [isAbs] using h3⟩
  · intro hm
    obtain ⟨c, hc, hcc⟩ := List.mem_map.mp hm
    split at hcc
    · cases hcc
    · exact h1 (hcc ▸ hc)
  · intro hm
    obtain ⟨c, -, hcc⟩ := List.mem_map.mp hm
    split at hcc
    · cases hcc
    · rename_i hb
      exact hb hcc

/-! ## 3. Size limits -/

theorem limits_are_spec :
    Helm.Gen.maxDecompressedChartSize = 100 * 1024 * 1024 ∧
    Helm.Gen.maxDecompressedFileSize = 5 * 1024 * 1024 := by decide

/-- For every sequence of declared entry sizes: the archive is accepted only if every file is
within the per-file limit and the running total stays (strictly) within the chart limit. -/
theorem size_accounting (sizes : List Nat) (r : Nat) (h : loadSizes sizes = .accepted r) :
    (∀ s ∈ sizes, s ≤ Helm.Gen.maxDecompressedFileSize) ∧ r = sizes.sum ∧
    (sizes ≠ [] → sizes.sum < Helm.Gen.maxDecompressedChartSize) := by
  simpa using sizeLoop_accepted _ sizes _ 0 r h

/-- Accepted or rejected, the loop never copies more than the chart limit in total: an
oversized archive is rejected without reading beyond the limit. -/
theorem never_reads_beyond_limit (sizes : List Nat) :
    (loadSizes sizes).read ≤ Helm.Gen.maxDecompressedChartSize := by
  have := sizeLoop_read_le Helm.Gen.maxDecompressedFileSize sizes Helm.Gen.maxDecompressedChartSize 0
  rwa [Nat.zero_add] at this

example : loadSizes [5 * 1024 * 1024, 1] = .accepted (5 * 1024 * 1024 + 1) := by decide
example : loadSizes [5 * 1024 * 1024 + 1] = .rejected 0 := by decide

end Helm.Props.C16
