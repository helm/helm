/-
C06  Dry-run and template never change the cluster or the release history.
Property theorems only.  Storage side: the ledger model (every ledger, every flag
combination, every fault plan).  Cluster side: see Helm/Model/Cluster.lean (request log).
-/
import Helm.Model.Ledger
import Helm.Lemmas.Cluster
import Helm.Model.DryRun
import Helm.Gen.Tables
import Helm.Spec.Skeletons

namespace Helm.Props.C06
open Helm.Ledger

/-- A dry-run install attempts no storage write and leaves the history as it is -- whatever the
other flags (replace, atomic, hooks), the chart, the existing history and the fault plan. -/
theorem install_dry_run_writes_nothing (fl : InstallFlags) (hd : fl.dryRun = true) (f fn : Faults)
    (p : Nat) (l : Ledger) :
    (install fl f fn p l).1 = { ledger := l, decs := f.st, writes := [] } := by
  unfold install
  simp only [hd, if_true]
  cases f.pre <;> simp

theorem upgrade_dry_run_writes_nothing (fl : UpgradeFlags) (hd : fl.dryRun = true) (f fn : Faults)
    (p : Nat) (l : Ledger) :
    (upgrade fl f fn p l).1 = { ledger := l, decs := f.st, writes := [] } := by
  unfold upgrade
  cases f.pre <;> simp only
  cases last? l with
  | none => rfl
  | some lastRec =>
    simp only
    split
    · rfl
    · cases currentOf l <;> simp [hd]

theorem rollback_dry_run_writes_nothing (fl : RollbackFlags) (hd : fl.dryRun = true) (f : Faults)
    (l : Ledger) :
    (rollback fl f l).1 = { ledger := l, decs := f.st, writes := [] } := by
  unfold rollback rollbackOn
  cases f.pre <;> simp only
  cases last? l with
  | none => rfl
  | some cur =>
    simp only
    split
    · rfl
    · simp [hd]

theorem uninstall_dry_run_writes_nothing (fl : UninstallFlags) (hd : fl.dryRun = true) (f : Faults)
    (l : Ledger) :
    (uninstall fl f l).1 = { ledger := l, decs := f.st, writes := [] } := by
  unfold uninstall uninstallOn
  cases f.pre <;> simp [hd]

/-- premises satisfiable, on a populated history -/
example : (upgrade { dryRun := true, atomic := true, maxHistory := 1 } { wait := .fail } {} 5
    [⟨1, .superseded, 1⟩, ⟨2, .deployed, 2⟩]).1.writes = [] := by decide

/-! ### cluster side: a dry run sends only reads (the ownership pre-flight) and changes nothing -/
open Helm.Cluster in
theorem install_dry_run_cluster (rel ns : String) (to force : Bool) (manifest : List Obj) (s : Store) :
    (installCluster rel ns to force true manifest s).store = s ∧
    ∀ e ∈ (installCluster rel ns to force true manifest s).log, e.isWrite = false := by
  obtain ⟨reads, hr, ⟨_, h⟩ | ⟨_, ⟨_, h⟩ | ⟨hd, _⟩⟩⟩ := installCluster_cases rel ns to force true manifest s []
  · rw [h]
    exact ⟨rfl, hr⟩
  · rw [h]
    exact ⟨rfl, hr⟩
  · cases hd

open Helm.Cluster in
theorem upgrade_dry_run_cluster (rel ns : String) (to force : Bool) (current target : List Obj) (s : Store) :
    (upgradeCluster rel ns to force true current target s).store = s ∧
    ∀ e ∈ (upgradeCluster rel ns to force true current target s).log, e.isWrite = false := by
  obtain ⟨reads, hr, ⟨_, h⟩ | ⟨_, ⟨_, h⟩ | ⟨hd, _⟩⟩⟩ := upgradeCluster_cases rel ns to force true current target s []
  · rw [h]
    exact ⟨rfl, hr⟩
  · rw [h]
    exact ⟨rfl, hr⟩
  · cases hd

/-! ### every dry-run spelling, CRDs and client-only -/

open Helm.DryRun in
private theorem isDryRun_of_spelling {m : Mode}
    (hd : m.dryRun = true ∨ m.option = "client" ∨ m.option = "server" ∨ m.option = "true") : isDryRun m = true := by
  unfold isDryRun
  rcases hd with h | h | h | h <;> simp [h]

open Helm.Cluster Helm.DryRun in
/-- Whatever the spelling (DryRun, or DryRunOption client / server / true), whatever the other
flags and whatever the chart has in crds/: an install in a dry-run mode leaves the cluster as
it is and sends only reads. -/
theorem install_any_dry_run_spelling (rel ns : String) (m : Mode) (to force : Bool) (crds manifest : List Obj)
    (s : Store) (hd : m.dryRun = true ∨ m.option = "client" ∨ m.option = "server" ∨ m.option = "true") :
    (installOp rel ns m to force crds manifest s).store = s ∧
    ∀ e ∈ (installOp rel ns m to force crds manifest s).log, e.isWrite = false := by
  have hdr := isDryRun_of_spelling hd
  have hp : crdPhase m crds s = (s, []) := by
    unfold crdPhase
    rw [hdr]
    split <;> rfl
  unfold installOp
  rw [hp]
  split
  · exact ⟨rfl, by simp⟩
  · rw [hdr]
    have := install_dry_run_cluster rel ns to force manifest s
    exact ⟨this.1, by simpa using this.2⟩

open Helm.Cluster Helm.DryRun in
theorem upgrade_any_dry_run_spelling (rel ns : String) (m : Mode) (to force : Bool) (current target : List Obj)
    (s : Store) (hd : m.dryRun = true ∨ m.option = "client" ∨ m.option = "server" ∨ m.option = "true") :
    (upgradeOp rel ns m to force current target s).store = s ∧
    ∀ e ∈ (upgradeOp rel ns m to force current target s).log, e.isWrite = false := by
  unfold upgradeOp
  rw [isDryRun_of_spelling hd]
  exact upgrade_dry_run_cluster rel ns to force current target s

open Helm.Cluster Helm.DryRun in
/-- Client-only rendering sends no request at all. -/
theorem client_only_sends_nothing (rel ns : String) (m : Mode) (hc : m.clientOnly = true) (to force : Bool)
    (crds manifest : List Obj) (s : Store) :
    (installOp rel ns m to force crds manifest s).log = [] ∧ (installOp rel ns m to force crds manifest s).store = s := by
  unfold installOp crdPhase
  simp [hc]

/-- The tie to the source: the spellings `isDryRun` accepts, in Install and in Upgrade, and the
guard of the CRD block (regenerated from pkg/action/install.go, upgrade.go at every run). -/
theorem dry_run_spellings_are_the_models :
    Helm.Gen.installDryRunSpellings = ["client", "server", "true"] ∧
    Helm.Gen.upgradeDryRunSpellings = ["client", "server", "true"] ∧
    Helm.Gen.crdBailCondition = "i.isDryRun()" := by decide

/-- non-vacuity: dry-run=server with a CRD in the chart and a populated cluster -/
example :
    (Helm.DryRun.installOp "r" "n" { option := "server" } false false [{ key := "crd/x" }] [{ key := "a" }] [{ key := "z" }]).log
      = [.get "a"] := by decide

/-- The tie to the command line: the install `helm upgrade --install` falls back to gets both dry-run fields,
the hook, CRD and ownership switches from the upgrade flags of the same name (regenerated from
pkg/cmd/upgrade.go at every run). -/
theorem upgrade_install_forwards_dry_run :
    Helm.Spec.forwardsAll Helm.Gen.upgradeInstallForwards
      [("DryRun", "client.DryRun"), ("DryRunOption", "client.DryRunOption"), ("DisableHooks", "client.DisableHooks"),
       ("SkipCRDs", "client.SkipCRDs"), ("TakeOwnership", "client.TakeOwnership"), ("HideSecret", "client.HideSecret")] = true := by
  decide

/-- `--dry-run` is bound to the dry-run option of install and upgrade and to the dry-run switch of rollback and
uninstall, and to nothing else (regenerated from pkg/cmd at every run). -/
theorem dry_run_flag_bound :
    Helm.Spec.forwardsAll Helm.Gen.installFlags [("dry-run", "client.DryRunOption")] = true ∧
    Helm.Spec.forwardsAll Helm.Gen.upgradeFlags [("dry-run", "client.DryRunOption")] = true ∧
    Helm.Spec.forwardsAll Helm.Gen.rollbackFlags [("dry-run", "client.DryRun")] = true ∧
    Helm.Spec.forwardsAll Helm.Gen.uninstallFlags [("dry-run", "client.DryRun")] = true := by
  decide

end Helm.Props.C06
