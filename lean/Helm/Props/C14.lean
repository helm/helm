/-
C14  Values that violate a chart's schema are never rendered or deployed.
The validator of a single schema is a parameter `valid`.
-/
import Helm.Model.Schema
import Helm.Gen.Tables
import Helm.Spec.Skeletons

namespace Helm.Props.C14
open Helm.Values Helm.Schema

mutual
  /-- **The error names exactly the failing charts**: the list `ValidateAgainstSchema` reports is,
  in tree order, the charts (root or dependency at any depth) whose schema rejects the part of
  the coalesced values under their path. -/
  theorem error_names_exactly_failing (valid : Schema → Tbl → Bool) (c : SChart) (vals : Tbl) :
      failing valid c vals = (scopeOf c vals).map (·.filterMap (rejects valid)) :=
    match c with
    | .mk name schema deps => by
      rw [failing.eq_def, scopeOf.eq_def]
      simp only
      rw [failingDeps_eq valid deps vals]
      cases scopeDeps deps vals with
      | none => rfl
      | some r =>
        simp only [Option.map_some, List.filterMap_cons, rejects]
        cases schema with
        | none => rfl
        | some s => by_cases h : valid s vals = true <;> simp [h]
  theorem failingDeps_eq (valid : Schema → Tbl → Bool) : ∀ (l : SChartList) (vals : Tbl),
      failingDeps valid l vals = (scopeDeps l vals).map (·.filterMap (rejects valid))
    | .nil, _ => by simp [failingDeps, scopeDeps]
    | .cons c r, vals => by
      rw [failingDeps.eq_def, scopeDeps.eq_def]
      simp only
      cases h : vals.get? c.name with
      | none => rfl
      | some v =>
        cases v with
        | tbl sub =>
          simp only
          rw [error_names_exactly_failing valid c sub, failingDeps_eq valid r vals]
          cases scopeOf c sub <;> cases scopeDeps r vals <;> simp
        | _ => rfl
end

private theorem rejects_eq_none (valid : Schema → Tbl → Bool) (e : String × Option Schema × Tbl) :
    rejects valid e = none ↔ ∀ s, e.2.1 = some s → valid s e.2.2 = true := by
  unfold rejects
  cases e.2.1 <;> simp

/-- **Gate iff**: without the skip option the gate passes iff no chart of the tree has a schema
that rejects its values (and fails iff some chart does). -/
theorem gate_iff (valid : Schema → Tbl → Bool) (c : SChart) (vals : Tbl)
    (l : List (String × Option Schema × Tbl)) (hs : scopeOf c vals = some l) :
    gate valid false c vals = true ↔ ∀ e ∈ l, ∀ s, e.2.1 = some s → valid s e.2.2 = true := by
  unfold gate
  rw [error_names_exactly_failing valid c vals, hs]
  simp [rejects_eq_none]

/-- Skipping is possible only through the explicit option: with it the gate always passes,
without it the gate is exactly the check above. -/
theorem skip_only_by_flag (valid : Schema → Tbl → Bool) (c : SChart) (vals : Tbl) :
    gate valid true c vals = true ∧
    (gate valid false c vals = true ↔ failing valid c vals = some []) := by
  simp [gate]

/-- If every schema is satisfied the schema step never rejects. -/
theorem all_satisfied_passes (valid : Schema → Tbl → Bool) (hall : ∀ s t, valid s t = true)
    (c : SChart) (vals : Tbl) (l : List (String × Option Schema × Tbl)) (hs : scopeOf c vals = some l) :
    gate valid false c vals = true :=
  (gate_iff valid c vals l hs).mpr (fun _ _ s _ => hall s _)

/-- non-vacuity: a two-level tree, the subchart's schema rejecting -/
example :
    let sch : Schema := .mk (some .object) ["must"] none none none .nil true
    let tree : SChart := .mk "parent" none (.cons (.mk "sub" (some sch) .nil) .nil)
    let vals : Tbl := .cons "sub" (.tbl (.cons "other" (.num "1") .nil)) .nil
    failing (fun s t => validate s (.tbl t)) tree vals = some ["sub"] := by
  rfl

/-- The tie to the command line: the install `helm upgrade --install` falls back to gets its skip flag from
`--skip-schema-validation` and from nothing else (regenerated from pkg/cmd/upgrade.go at every run). -/
theorem upgrade_install_forwards_skip_flag :
    Helm.Spec.forwardsAll Helm.Gen.upgradeInstallForwards
      [("SkipSchemaValidation", "client.SkipSchemaValidation"),
       ("DisableOpenAPIValidation", "client.DisableOpenAPIValidation")] = true := by
  decide +kernel

/-- `--skip-schema-validation` is the only flag bound to SkipSchemaValidation, in install and upgrade
(regenerated from pkg/cmd at every run). -/
theorem skip_flag_bound :
    Helm.Spec.forwardsAll Helm.Gen.installFlags [("skip-schema-validation", "client.SkipSchemaValidation")] = true ∧
    Helm.Spec.forwardsAll Helm.Gen.upgradeFlags [("skip-schema-validation", "client.SkipSchemaValidation")] = true ∧
    (Helm.Gen.installFlags.filter (fun p => p.2 == "client.SkipSchemaValidation")).length = 1 ∧
    (Helm.Gen.upgradeFlags.filter (fun p => p.2 == "client.SkipSchemaValidation")).length = 1 := by
  decide +kernel

end Helm.Props.C14
