/-
C15  Packaging and loading a chart preserves its content.
The complete round trip `loadFiles ∘ archiveFiles ∘ saveEntries = id` is exercised by the
correspondence (model writer/loader vs chartutil.Save / loader.Load on generated charts); what
is proved here for **all** names and contents are its ingredients and the exact exclusions.
-/
import Helm.Model.ChartIO
import Helm.Lemmas.ChartIO
import Helm.Lemmas.Ignore

namespace Helm.Props.C15
open Helm.ChartIO Helm.ArchivePath

/-! ## 1. Names and bytes survive the archive for every clean name -/

/-- For every chart (directory) name without separators and every clean relative file name --
any depth, any characters (unicode, spaces, dots) -- the loader's normalisation of the name
the writer produced gives back exactly the file name. -/
theorem name_survives_archive (base n : Str) (hb1 : '/' ∉ base) (hb2 : '\\' ∉ base)
    (hb3 : base ≠ "Chart.yaml".toList) (hn : CleanName n) :
    normName (base ++ '/' :: n) = .ok n := by
  obtain ⟨-, hbs, hnorm, hdd, hdrv⟩ := hn
  have hdelim : (base ++ '/' :: n).contains '\\' = false := by simp [hb2, hbs]
  rw [normName_eq_ok_iff]
  simp only [hdelim, Bool.false_eq_true, if_false, splitOn_append_sep '/' base n hb1, List.tail_cons,
    List.head?_cons, join_split, pathClean_of_normal n hnorm]
  refine ⟨(not_abs_of_comps fun hm => (hnorm [] hm).1 rfl).2, ?_, hdd, hdrv,
    fun h => hb3 (Option.some.inj h), trivial⟩
  rintro rfl
  exact (hnorm ['.'] List.mem_cons_self).2.1 rfl

/-- Content that does not begin with a UTF-8 byte-order mark is kept byte for byte. -/
theorem bytes_survive (d : Bytes) (h : bom.isPrefixOf d = false) : trimBOM d = d := by
  simp [trimBOM, h]

/-- A whole entry of a saved chart comes back unchanged. -/
theorem entry_survives (base : Str) (f : File) (rest : List File) (r : List File)
    (hb1 : '/' ∉ base) (hb2 : '\\' ∉ base) (hb3 : base ≠ "Chart.yaml".toList)
    (hn : CleanName f.name) (hd : bom.isPrefixOf f.data = false)
    (hr : archiveFiles rest = some r) :
    archiveFiles (⟨base ++ '/' :: f.name, f.data⟩ :: rest) = some (f :: r) := by
  simp [archiveFiles, name_survives_archive base f.name hb1 hb2 hb3 hn, bytes_survive f.data hd, hr]

/-- premises satisfiable by a non-trivial name -/
example : CleanName "files/deep/ü b.bin".toList := by
  -- the literal as a list of characters first: `toList` itself decodes UTF-8 by a well-founded
  -- recursion, which is slow to evaluate
  rw [String.toList_ofList]
  unfold CleanName Normal
  decide +kernel

/-! ## 2. Classification on load -/

theorem classify_reserved :
    classify "Chart.yaml".toList = .chartYaml ∧ classify "Chart.lock".toList = .chartLock ∧
    classify "values.yaml".toList = .valuesYaml ∧ classify "values.schema.json".toList = .schema := by
  decide +kernel

/-- Everything under `templates/` is a template -- never a plain file, never applied twice. -/
theorem classify_template (n : Str) (h : startsWith "templates/".toList n = true) :
    classify n = .template := by
  -- one evaluation for the five names, so that each literal is decoded once
  have key : ∀ r ∈ ["Chart.yaml", "Chart.lock", "requirements.lock", "values.yaml", "values.schema.json"],
      startsWith "templates/".toList r.toList = false := by decide +kernel
  simp only [List.forall_mem_cons] at key
  have hne : ∀ {r : Str}, startsWith "templates/".toList r = false → n ≠ r := fun hr e => by
    rw [e, hr] at h
    cases h
  unfold classify
  rw [if_neg (hne key.1), if_neg (hne key.2.1), if_neg (hne key.2.2.1), if_neg (hne key.2.2.2.1),
    if_neg (hne key.2.2.2.2.1), if_pos h]

/-- The Helm 2 lock file of an apiVersion v1 chart is parsed as the lock AND stays among the
chart's files (so that saving the chart writes it back); in a v2 chart it is only parsed. -/
theorem v1_requirements_lock_kept (a : Acc) (d : Bytes) :
    (accStep true a ⟨"requirements.lock".toList, d⟩).lock = some d ∧
    (accStep true a ⟨"requirements.lock".toList, d⟩).files = a.files ++ [⟨"requirements.lock".toList, d⟩] ∧
    (accStep false a ⟨"requirements.lock".toList, d⟩).files = a.files := by
  have hc : classify "requirements.lock".toList = .reqLock := by decide +kernel
  rw [accStep_reqLock true a d hc, accStep_reqLock false a d hc]
  exact ⟨rfl, rfl, rfl⟩

/-! ## 3. The exclusions, each a proved fact about the writer/loader and a finding on the code -/

/-- A file whose content starts with a UTF-8 BOM loses those three bytes (C15:bom-stripped). -/
theorem counterexample_bom (d : Bytes) : trimBOM (bom ++ d) = d ∧ trimBOM (bom ++ d) ≠ bom ++ d := by
  have h : trimBOM (bom ++ d) = d := by simp [trimBOM, bom]
  refine ⟨h, ?_⟩
  rw [h]
  intro e
  have := congrArg List.length e
  simp [bom] at this
  omega

/-- A file name containing a backslash comes back as a different name (C15:backslash-name):
the loader switches its delimiter to `\`. -/
theorem counterexample_backslash :
    normName "c/files/a\\b.txt".toList = .ok "b.txt".toList := by
  rw [String.toList_ofList, String.toList_ofList]
  rfl

/-- A v1 chart's lock is not written at all (C15:v1-lock-dropped). -/
theorem counterexample_v1_lock (name : Str) (metaDoc l : Bytes) :
    saveEntries (.mk name true metaDoc (some l) none none [] [] []) [] =
      [⟨join (join [] name) "Chart.yaml".toList, metaDoc⟩] := by
  simp only [saveEntries, saveEntries.saveDeps, if_true, List.map_nil, List.append_nil]

/-- Values are written only from the raw `values.yaml` file: a chart carrying parsed values
without it saves nothing but its Chart.yaml (C15:values-without-raw). -/
theorem values_written_only_from_raw (name : Str) (apiV1 : Bool) (metaDoc : Bytes) :
    saveEntries (.mk name apiV1 metaDoc none none none [] [] []) [] =
      [⟨join (join [] name) "Chart.yaml".toList, metaDoc⟩] := by
  simp only [saveEntries, saveEntries.saveDeps, List.map_nil, List.append_nil]

/-! ## 4. .helmignore: what a directory load (and therefore a package) leaves out -/

open Helm.Ignore in
/-- Nothing that the rules ignore, and nothing below a directory they ignore, is loaded from
a chart directory -- so none of it reaches `Save` and the packaged archive. -/
theorem ignored_files_are_not_loaded (rules : List Rule) (files : List (List Char)) (p : List Char)
    (h : p ∈ loadDir rules files) :
    ignore rules p false = false ∧ ∀ a ∈ ancestors p, ignore rules a true = false :=
  (loaded_iff rules p).mp ((loadDir_sound rules files p).mp h).2

open Helm.Ignore in
/-- ... and everything else is (the rules exclude nothing more than they say). -/
theorem unignored_files_are_loaded (rules : List Rule) (files : List (List Char)) (p : List Char)
    (hp : p ∈ files) (h1 : ignore rules p false = false) (h2 : ∀ a ∈ ancestors p, ignore rules a true = false) :
    p ∈ loadDir rules files :=
  (loadDir_sound rules files p).mpr ⟨hp, (loaded_iff rules p).mpr ⟨h1, h2⟩⟩

open Helm.Ignore in
/-- An ignored directory hides all of its contents. -/
theorem ignored_directory_hides_contents (rules : List Rule) (files : List (List Char)) (d rest : List Char)
    (h : ignore rules d true = true) : (d ++ '/' :: rest) ∉ loadDir rules files := by
  intro hm
  have := (ignored_files_are_not_loaded rules files _ hm).2 d (mem_ancestors d rest)
  rw [h] at this
  cases this

open Helm.Ignore in
/-- For rule sets without `!`: an entry is ignored exactly when some rule that applies to its
kind (directory-only rules apply to directories only) matches it -- whatever the order of the
rules, in particular whatever comes before the rule that matches. -/
theorem positive_rules_any_match (rules : List Rule) (hp : ∀ r ∈ rules, r.negate = false)
    (path : List Char) (isDir : Bool) (hne : path ≠ [] ∧ path ≠ ['.'] ∧ path ≠ ['.', '/']) :
    ignore rules path isDir = true ↔ ∃ r ∈ rules, hits r path isDir = true := by
  have hg : (path.isEmpty || decide (path = ['.']) || decide (path = ['.', '/'])) = false := by
    cases path with
    | nil => exact absurd rfl hne.1
    | cons a t => simp [hne.2.1, hne.2.2]
  rw [ignore, hg, if_neg Bool.false_ne_true, ignoreLoop_positive path isDir rules hp, List.any_eq_true]

open Helm.Ignore in
theorem positive_rules_order_immaterial (r1 r2 : List Rule) (hperm : r1.Perm r2) (hp : ∀ r ∈ r1, r.negate = false)
    (path : List Char) (isDir : Bool) : ignore r1 path isDir = ignore r2 path isDir := by
  unfold ignore
  split
  · rfl
  · rw [ignoreLoop_positive path isDir r1 hp,
      ignoreLoop_positive path isDir r2 (fun r hr => hp r (hperm.symm.subset hr))]
    rw [Bool.eq_iff_iff]
    simp only [List.any_eq_true, hperm.mem_iff]

open Helm.Ignore in
/-- What the patterns mean: a pattern without `*` and `?` matches only itself; `*ext` matches
the names ending in ext whose remainder has no separator. -/
theorem literal_pattern (p : List Char) (hp : Literal p) (n : List Char) : glob p n = decide (p = n) := by
  induction p generalizing n with
  | nil => cases n <;> simp [glob]
  | cons c p ih =>
    have hc := hp c List.mem_cons_self
    have hp' : Literal p := fun x hx => hp x (List.mem_cons_of_mem _ hx)
    unfold glob
    simp only [hc.1, if_false]
    cases n with
    | nil => simp
    | cons d n' =>
      simp only [hc.2, if_false, ih hp' n']
      by_cases h : c = d <;> simp [h]

open Helm.Ignore in
theorem star_suffix_pattern (ext : List Char) (he : Literal ext) (n : List Char) :
    glob ('*' :: ext) n = true ↔ ∃ pre, n = pre ++ ext ∧ '/' ∉ pre := by
  unfold glob
  rw [if_pos rfl, starAny_iff]
  constructor
  · rintro ⟨pre, suf, hn, hp, hf⟩
    rw [literal_pattern ext he, decide_eq_true_eq] at hf
    exact ⟨pre, hf ▸ hn, hp⟩
  · rintro ⟨pre, hn, hp⟩
    exact ⟨pre, ext, hn, hp, by rw [literal_pattern ext he, decide_eq_true_eq]⟩

open Helm.Ignore in
/-- the layout `helm create` writes: a directory-only rule, then file rules.  A file matched
only by a later rule is ignored, a directory matched by the first rule hides its contents. -/
example :
    let rules := (rulesOf ["docs/".toList, "# comment".toList, "".toList, "*.bak".toList, "secret.txt".toList]).getD []
    loadDir rules ["Chart.yaml".toList, "notes.bak".toList, "secret.txt".toList, "docs/a.md".toList,
      "templates/x.yaml".toList, "templates/.hidden".toList, "sub/secret.txt".toList, "docs".toList]
      = ["Chart.yaml".toList, "templates/x.yaml".toList, "docs".toList] := by decide +kernel

end Helm.Props.C15
