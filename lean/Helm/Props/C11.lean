/-
C11  Subcharts see only their own and global values; disabled ones vanish.
Property theorems only.
-/
import Helm.Model.Deps
import Helm.Lemmas.Deps

namespace Helm.Props.C11
open Helm.Values Helm.Deps

/-! ## 1. Scope and isolation (value coalescing over the chart tree) -/

/-- Processing the dependencies writes only the keys named after them: nothing a subchart has
changes what the parent chart sees under any other key. -/
theorem parent_view_untouched (m : Bool) (deps : ChartList) (dest res : Tbl) (k : String)
    (hk : k ∉ deps.names) (h : coalesceDeps m deps dest = .ok res) :
    res.get? k = dest.get? k := by
  induction deps using ChartList.ind generalizing dest with
  | nil =>
    rw [coalesceDeps] at h
    cases h
    rfl
  | cons sub rest ih =>
    simp only [ChartList.names, List.mem_cons, not_or] at hk
    obtain ⟨_, r, _, _, hrest⟩ := coalesceDeps_cons_ok h
    rw [ih _ hk.2 hrest, Tbl.get?_set_other _ _ _ _ (Ne.symm hk.1), ensureSection_other _ _ _ (Ne.symm hk.1)]

/-- A subchart's globals are computed from its own `global` and the parent's `global` only. -/
theorem globals_read_only_global (dv d d' : Tbl) (h : d.get? globalKey = d'.get? globalKey) :
    coalesceGlobals dv d = coalesceGlobals dv d' := by
  unfold coalesceGlobals
  rw [h]

/-- What a subchart sees = its chart coalesced with (the parent's section under its name, with the
parent's `global` merged in) -- and nothing else of the parent or of any sibling. -/
theorem subchart_scope (m : Bool) (deps : ChartList) (dest res : Tbl) (sub : Chart)
    (hmem : sub ∈ deps.toList) (hnd : deps.names.Nodup) (hg : globalKey ∉ deps.names)
    (h : coalesceDeps m deps dest = .ok res) :
    ∃ sec result, (dest.get? sub.name).getD (.tbl .nil) = .tbl sec ∧
      coalesce m sub (coalesceGlobals sec dest) = .ok result ∧
      res.get? sub.name = some (.tbl result) := by
  induction deps using ChartList.ind generalizing dest with
  | nil => cases hmem
  | cons hd rest ih =>
    simp only [ChartList.names, List.nodup_cons, List.mem_cons, not_or, ChartList.toList] at hmem hnd hg
    obtain ⟨sec, r, hsec, hr, hrest⟩ := coalesceDeps_cons_ok h
    have hsg : hd.name ≠ globalKey := Ne.symm hg.1
    rcases hmem with rfl | hmem
    · -- its own round: the later rounds do not write its key
      refine ⟨sec, r, ?_, ?_, ?_⟩
      · rw [ensureSection_same] at hsec
        exact Option.some.inj hsec
      · rw [← globals_read_only_global sec _ _ (ensureSection_other dest _ _ hsg)]
        exact hr
      · rw [parent_view_untouched m rest _ res _ hnd.1 hrest, Tbl.get?_set_same]
    · -- a later round: the earlier one wrote neither its key nor `global`
      have hne : hd.name ≠ sub.name := by
        intro e
        rw [ChartList.names_eq_map] at hnd
        exact hnd.1 (e ▸ List.mem_map_of_mem hmem)
      obtain ⟨sec', r', h1, h2, h3⟩ := ih _ hmem hnd.2 hg.2 hrest
      rw [Tbl.get?_set_other _ _ _ _ hne, ensureSection_other _ _ _ hne] at h1
      rw [globals_read_only_global sec' _ dest (by
        rw [Tbl.get?_set_other _ _ _ _ hsg, ensureSection_other _ _ _ hsg])] at h2
      exact ⟨sec', r', h1, h2, h3⟩

/-- Isolation: two parents that agree on a subchart's section and on `global` give that subchart
the same values, whatever else differs -- other keys, siblings' sections, siblings' defaults
(the sibling charts are the same list here; their sections are arbitrary). -/
theorem sibling_isolation (m : Bool) (deps : ChartList) (dest dest' res res' : Tbl) (k : String)
    (hk : k ∈ deps.names) (hnd : deps.names.Nodup) (hg : globalKey ∉ deps.names)
    (hsec : dest.get? k = dest'.get? k) (hglob : dest.get? globalKey = dest'.get? globalKey)
    (h : coalesceDeps m deps dest = .ok res) (h' : coalesceDeps m deps dest' = .ok res') :
    res.get? k = res'.get? k := by
  rw [ChartList.names_eq_map] at hk
  obtain ⟨sub, hmem, rfl⟩ := List.mem_map.mp hk
  -- both runs hand the subchart the same section and the same globals
  obtain ⟨sec, r, h1, h2, h3⟩ := subchart_scope m deps dest res sub hmem hnd hg h
  obtain ⟨sec', r', h1', h2', h3'⟩ := subchart_scope m deps dest' res' sub hmem hnd hg h'
  rw [hsec, h1'] at h1
  cases h1
  rw [globals_read_only_global sec dest dest' hglob, h2'] at h2
  cases h2
  rw [h3, h3']

/-! ## 2. Globals flow top-down, the ancestor's setting winning -/

/-- Key-level refinement of the globals merge (`dg` = the subchart's own globals so far, `sg` =
the parent's): a parent scalar wins unless the subchart has a table there (skipped with a
warning); parent and subchart tables merge with the parent winning leaf by leaf; a parent table
over a subchart scalar is skipped with a warning. -/
theorem globals_key (dg sg : Tbl) (hs : sg.WF) (x : String) :
    (globalsLoop dg sg).get? x =
      match sg.get? x with
      | none => dg.get? x
      | some (.tbl vt) =>
        (match dg.get? x with
         | none => some (.tbl vt)
         | some (.tbl dm) => some (.tbl (coalesceTables true vt dm))
         | some o => some o)
      | some v =>
        (match dg.get? x with
         | some (.tbl t) => some (.tbl t)
         | _ => some v) := by
  rw [get?_globalsLoop dg sg hs x]
  cases sg.get? x with
  | none => rfl
  | some v => cases v <;> rfl

/-- The ancestor's scalar global wins over the descendant's own default. -/
theorem ancestor_global_scalar_wins (dg sg : Tbl) (hs : sg.WF) (x : String) (v : Val)
    (hv : sg.get? x = some v) (hvt : v.isTable = false)
    (hno : ∀ t, dg.get? x ≠ some (.tbl t)) :
    (globalsLoop dg sg).get? x = some v := by
  rw [get?_globalsLoop dg sg hs x, hv]
  exact globalVal_leaf _ v hvt hno

/-- ... and inside nested global tables the ancestor wins leaf by leaf. -/
theorem ancestor_global_nested_wins (dg sg : Tbl) (hs : sg.WF) (x : String) (vt dm : Tbl)
    (hdm : dm.WF) (hv : sg.get? x = some (.tbl vt)) (hd : dg.get? x = some (.tbl dm))
    (p : List String) (v : Val) (hp : lookupPath vt p = some v) (hvt : v.isTable = false) :
    ∃ t, (globalsLoop dg sg).get? x = some (.tbl t) ∧ lookupPath t p = some v := by
  refine ⟨coalesceTables true vt dm, ?_, ?_⟩
  · rw [globals_key dg sg hs x, hv, hd]
  · exact coalesce_dst_wins true vt dm hdm p v hp hvt (Or.inl rfl)

/-! ## 3. Enabled iff: conditions first, then tags -/

/-- The first condition path that resolves to a boolean decides. -/
theorem first_boolean_condition_decides (cvals : Tbl) (cpath : List String)
    (cs : List (List String)) :
    condPass cvals cpath cs = cs.findSome? fun c =>
      match pathValue cvals (cpath ++ c) with
      | some (.bool b) => some b
      | _ => none := by
  induction cs with
  | nil => rfl
  | cons c rest ih =>
    rw [condPass, List.findSome?_cons, ← ih]
    cases pathValue cvals (cpath ++ c) with
    | none => rfl
    | some v => cases v <;> rfl

/-- Tags disable exactly when some tag is false and none is true. -/
theorem tags_disable_iff (vt : Tbl) (tags : List String) :
    tagsPass vt tags = false ↔
      (∃ k ∈ tags, vt.get? k = some (.bool false)) ∧ ¬ (∃ k ∈ tags, vt.get? k = some (.bool true)) := by
  have hT := any_get?_iff (vt := vt) (tags := tags) (w := .bool true)
    (p := fun o => match o with | some (.bool true) => true | _ => false) (fun o => by split <;> simp_all)
  have hF := any_get?_iff (vt := vt) (tags := tags) (w := .bool false)
    (p := fun o => match o with | some (.bool false) => true | _ => false) (fun o => by split <;> simp_all)
  rw [← hT, ← hF]
  exact tagsPass_bool _ _

/-- The complete decision, stated outright. -/
theorem enabled_iff (cvals : Tbl) (cpath : List String) (d : Dep) :
    depEnabled cvals cpath d = true ↔
      match condPass cvals cpath d.conditions with
      | some b => b = true
      | none =>
        match cvals.get? "tags" with
        | some (.tbl vt) =>
          ¬ ((∃ k ∈ d.tags, vt.get? k = some (.bool false)) ∧ ¬ (∃ k ∈ d.tags, vt.get? k = some (.bool true)))
        | _ => True := by
  unfold depEnabled
  cases hc : condPass cvals cpath d.conditions with
  | some b => simp
  | none =>
    simp only
    cases ht : cvals.get? "tags" with
    | none => simp
    | some w =>
      cases w with
      | tbl vt =>
        simp only
        rw [← tags_disable_iff vt d.tags]
        cases tagsPass vt d.tags <;> simp
      | _ => simp

/-! ## 4. Disabled dependencies vanish; an alias replaces the name -/

/-- After alias resolution every aliased entry carries the alias as its only name. -/
theorem alias_only (metaDeps : List Dep) (subs : List DChart) :
    ∀ r ∈ (resolveAliases metaDeps subs).2, r.alias ≠ "" → r.name = r.alias := by
  intro r hr ha
  simp only [resolveAliases, List.mem_map] at hr
  obtain ⟨r0, _, rfl⟩ := hr
  by_cases h0 : r0.alias = ""
  · simp [h0] at ha ⊢
  · simp [h0]

/-- ... and the chart copies listed for them are renamed to the alias. -/
theorem aliased_chart_renamed (metaDeps : List Dep) (subs : List DChart) (r : Dep) (c : DChart)
    (hr : r ∈ metaDeps) (ha : r.alias ≠ "") (hc : findSub subs r.name = some c) :
    c.rename r.alias ∈ (resolveAliases metaDeps subs).1 := by
  simp only [resolveAliases, List.mem_append, List.mem_filterMap]
  right
  exact ⟨r, hr, by simp [hc, ha]⟩

/-- One level of `processDependencyEnabled`: every dependency entry that is kept is enabled, and
no kept subchart bears the name of a disabled entry. -/
theorem disabled_vanish (fuel : Nat) (name : String) (values : Tbl) (metaDeps : List Dep)
    (subs : DChartList) (v : Tbl) (path : List String) (c' : DChart)
    (hmd : metaDeps.isEmpty = false)
    (h : processEnabled (fuel + 1) (.mk name values metaDeps subs) v path = .ok c') :
    ∃ cvals,
      coalesceTop false (DChart.mk name values (resolveAliases metaDeps subs.toList).2
        (DChartList.ofList (resolveAliases metaDeps subs.toList).1)).toChart v = .ok cvals ∧
      (∀ r ∈ c'.metaDeps, depEnabled cvals path r = true) ∧
      (∀ s ∈ c'.subs.toList, ∀ r ∈ (resolveAliases metaDeps subs.toList).2,
        depEnabled cvals path r = false → s.name ≠ r.name) := by
  rw [processEnabled] at h
  simp only [hmd, Bool.false_eq_true, if_false] at h
  split at h
  · cases h
  · rename_i cvals hcv
    refine ⟨cvals, hcv, ?_⟩
    split at h
    · cases h
    · rename_i cd' hcd
      cases h
      -- an entry found disabled is on the list of names that both filters test
      have hdis : ∀ r ∈ (resolveAliases metaDeps subs.toList).2, depEnabled cvals path r = false →
          r.name ∈ ((resolveAliases metaDeps subs.toList).2.filter
            fun r => !depEnabled cvals path r).map (·.name) :=
        fun r hr hd => List.mem_map.mpr ⟨r, List.mem_filter.mpr ⟨hr, by rw [hd]; rfl⟩, rfl⟩
      constructor
      · intro r hr
        obtain ⟨hr1, hr2⟩ := List.mem_filter.mp hr
        cases hd : depEnabled cvals path r with
        | true => rfl
        | false => simp [hdis r hr1 hd] at hr2
      · intro s hs r hr hd heq
        rw [DChart.subs, DChartList.toList_ofList] at hs
        -- recursion keeps the names, so `s` bears the name of a chart that passed the filter
        have hs' : s.name ∈ cd'.map (·.name) := List.mem_map_of_mem hs
        rw [processSubs_names fuel _ cd' cvals path hcd] at hs'
        obtain ⟨s0, hs0, hs0n⟩ := List.mem_map.mp hs'
        have hkept := (List.mem_filter.mp hs0).2
        rw [hs0n, heq] at hkept
        simp [hdis r hr hd] at hkept

end Helm.Props.C11
