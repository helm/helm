/-
C13  Upgrade carries user values forward exactly as the chosen flag says.
(model: Helm/Model/Reuse.lean on top of Values.lean; the key-level characterisation of
CoalesceTables is Helm.Values.get?_coalesceTables).
Every current revision, every new chart, every value tree (nulls, type changes), every flag
combination.
-/
import Helm.Model.Reuse
import Helm.Lemmas.Values
import Helm.Gen.Tables
import Helm.Spec.Skeletons

namespace Helm.Props.C13
open Helm.Values Helm.Reuse

/-- reset-values: the new values alone, the new chart as it is. -/
theorem reset_values (fl : Flags) (h : fl.reset = true) (cur : Rev) (c : Chart) (v : Tbl) :
    upgradeStep fl cur c v = .ok ⟨c, v⟩ := by
  unfold upgradeStep; simp [h]

/-- With reuse-values or reset-then-reuse-values (and no reset-values) the recorded values are the
new ones laid over the deployed revision's: `CoalesceTables(newVals, current.Config)`. -/
private theorem upgradeStep_overlay (fl : Flags) (hr : fl.reset = false)
    (h : fl.reuse = true ∨ fl.resetThenReuse = true) (cur r : Rev) (c : Chart) (v : Tbl)
    (hs : upgradeStep fl cur c v = .ok r) : r.config = coalesceTables false v cur.config := by
  unfold upgradeStep at hs
  rw [hr, if_neg Bool.false_ne_true] at hs
  by_cases hu : fl.reuse = true
  · rw [if_pos hu] at hs
    split at hs
    · cases hs
    · cases hs
      rfl
  · rw [if_neg hu, if_pos (h.resolve_left hu)] at hs
    cases hs
    rfl

/-- reuse-values / reset-then-reuse-values: the recorded values are the deployed revision's
overlaid key by key with the new ones -- the new binding wins, a null in the new values removes
the key, two tables are overlaid recursively, and keys the new values do not mention are kept. -/
theorem reuse_overlays_key_by_key (fl : Flags) (hr : fl.reset = false)
    (h : fl.reuse = true ∨ fl.resetThenReuse = true) (cur r : Rev) (c : Chart) (v : Tbl)
    (hw : cur.config.WF) (hs : upgradeStep fl cur c v = .ok r) (x : String) :
    r.config.get? x =
      match cur.config.get? x with
      | none => v.get? x
      | some old =>
        match v.get? x with
        | none => some old
        | some new =>
          if new.isNull then none
          else match old, new with
            | .tbl ot, .tbl nt => some (.tbl (coalesceTables false nt ot))
            | _, _ => some new := by
  rw [upgradeStep_overlay fl hr h cur r c v hs]
  exact get?_coalesceTables false v cur.config hw x

/-- ... in particular a leaf given in the new values (not null) is what is recorded, at any depth. -/
theorem reuse_new_leaf_wins (fl : Flags) (hr : fl.reset = false)
    (h : fl.reuse = true ∨ fl.resetThenReuse = true) (cur r : Rev) (c : Chart) (v : Tbl)
    (hw : cur.config.WF) (hs : upgradeStep fl cur c v = .ok r)
    (p : List String) (leaf : Val) (hl : lookupPath v p = some leaf) (ht : leaf.isTable = false)
    (hn : leaf.isNull = false) : lookupPath r.config p = some leaf := by
  rw [upgradeStep_overlay fl hr h cur r c v hs]
  exact coalesce_dst_wins false v cur.config hw p leaf hl ht (Or.inr hn)

/-- No flag: the new values if any were given, else the deployed revision's. -/
theorem default_mode (fl : Flags) (h1 : fl.reset = false) (h2 : fl.reuse = false) (h3 : fl.resetThenReuse = false)
    (cur : Rev) (c : Chart) (v : Tbl) :
    upgradeStep fl cur c v = .ok ⟨c, if v.isEmpty && !cur.config.isEmpty then cur.config else v⟩ := by
  unfold upgradeStep; simp [h1, h2, h3]

/-- reuse-values: the values in force at the deployed revision (its chart's defaults under its
user values) become the defaults of the recorded chart ... -/
theorem reuse_keeps_old_defaults (fl : Flags) (hr : fl.reset = false) (hu : fl.reuse = true)
    (cur r : Rev) (c : Chart) (v : Tbl) (hs : upgradeStep fl cur c v = .ok r) :
    effective cur = .ok r.chart.values ∧ r.chart.name = c.name ∧ r.chart.deps = c.deps := by
  unfold upgradeStep at hs
  simp only [hr, Bool.false_eq_true, if_false, hu, if_true] at hs
  unfold effective
  split at hs
  · cases hs
  · rename_i old ho
    cases hs
    rw [ho]
    cases c
    exact ⟨rfl, rfl, rfl⟩

/-- ... in every other mode the new chart's defaults apply. -/
theorem other_modes_use_new_chart (fl : Flags) (hu : fl.reset = true ∨ fl.reuse = false)
    (cur r : Rev) (c : Chart) (v : Tbl) (hs : upgradeStep fl cur c v = .ok r) : r.chart = c := by
  unfold upgradeStep at hs
  by_cases hr : fl.reset = true
  · simp only [hr, if_true] at hs; cases hs; rfl
  · have h2 : fl.reuse = false := by
      rcases hu with h | h
      · exact absurd h hr
      · exact h
    simp only [hr, Bool.false_eq_true, if_false, h2] at hs
    split at hs <;> (cases hs; rfl)

/-- reset-values wins over the other two flags, reuse-values over reset-then-reuse-values. -/
theorem flag_precedence (cur : Rev) (c : Chart) (v : Tbl) (a b : Bool) :
    upgradeStep ⟨true, a, b⟩ cur c v = upgradeStep ⟨true, false, false⟩ cur c v ∧
    upgradeStep ⟨false, true, b⟩ cur c v = upgradeStep ⟨false, true, false⟩ cur c v := by
  unfold upgradeStep; simp

/-- A rollback restores the target revision's chart and values unchanged. -/
theorem rollback_restores (target : Rev) :
    (rollbackStep target).config = target.config ∧ (rollbackStep target).chart = target.chart := ⟨rfl, rfl⟩

/-- An upgrade with reuse-values and no new values records the same bindings as before. -/
theorem reuse_without_new_values (fl : Flags) (hr : fl.reset = false)
    (h : fl.reuse = true ∨ fl.resetThenReuse = true) (cur r : Rev) (c : Chart)
    (hw : cur.config.WF) (hs : upgradeStep fl cur c .nil = .ok r) (x : String) :
    r.config.get? x = cur.config.get? x := by
  rw [reuse_overlays_key_by_key fl hr h cur r c .nil hw hs x]
  cases cur.config.get? x <;> simp [Tbl.get?]

/-- non-vacuity: a null removes, a table is overlaid, an untouched key stays -/
example :
    let cur : Rev := ⟨.mk "c" (.cons "d" (.num "1") .nil) .nil,
      .cons "a" (.str "x") (.cons "t" (.tbl (.cons "k" (.num "1") (.cons "m" (.num "2") .nil))) (.cons "z" (.bool true) .nil))⟩
    let v : Tbl := .cons "a" .null (.cons "t" (.tbl (.cons "k" (.num "9") .nil)) .nil)
    (match upgradeStep ⟨false, false, true⟩ cur (.mk "c" .nil .nil) v with
      | .ok r => (r.config.get? "a", lookupPath r.config ["t", "k"], lookupPath r.config ["t", "m"], r.config.get? "z")
      | .err _ => (none, none, none, none)) =
    (none, some (.num "9"), some (.num "2"), some (.bool true)) := by rfl

/-- The three carry-over flags are bound to the three fields the modes are decided from (regenerated from
pkg/cmd/upgrade.go at every run). -/
theorem carry_over_flags_bound :
    Helm.Spec.forwardsAll Helm.Gen.upgradeFlags
      [("reset-values", "client.ResetValues"), ("reuse-values", "client.ReuseValues"),
       ("reset-then-reuse-values", "client.ResetThenReuseValues")] = true := by
  decide +kernel

end Helm.Props.C13
