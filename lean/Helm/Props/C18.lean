/-
C18  Version queries return the best matching chart from a well-formed index.
-/
import Helm.Model.Index
import Helm.Lemmas.Index

namespace Helm.Props.C18
open Helm.Index

/-! ## 1. Precedence is a total preorder (so "newest first" is well defined) -/

theorem precedence_total (a b : Ver) : (a.le b || b.le a) = true := by
  simp only [Ver.le, Bool.or_eq_true, decide_eq_true_eq]
  exact List.le_total _ _

theorem precedence_trans (a b c : Ver) : a.le b = true → b.le c = true → a.le c = true := by
  simp only [Ver.le, decide_eq_true_eq]
  exact List.le_trans

/-- SemVer-2 rules on literals (tests of the key encoding, labelled as tests):
1.0.0-alpha < 1.0.0-alpha.1 < 1.0.0-alpha.beta < 1.0.0-beta < 1.0.0-beta.2 < 1.0.0-beta.11 < 1.0.0-rc.1 < 1.0.0 -/
example :
    let v (pre : List Ident) : Ver := ⟨1, 0, 0, pre⟩
    (v [.alnum "alpha"]).key < (v [.alnum "alpha", .num 1]).key ∧
    (v [.alnum "alpha", .num 1]).key < (v [.alnum "alpha", .alnum "beta"]).key ∧
    (v [.alnum "alpha", .alnum "beta"]).key < (v [.alnum "beta"]).key ∧
    (v [.alnum "beta"]).key < (v [.alnum "beta", .num 2]).key ∧
    (v [.alnum "beta", .num 2]).key < (v [.alnum "beta", .num 11]).key ∧
    (v [.alnum "beta", .num 11]).key < (v [.alnum "rc", .num 1]).key ∧
    (v [.alnum "rc", .num 1]).key < (v []).key := by decide +kernel

/-! ## 2. A loaded index holds exactly the valid entries, newest first -/

/-- Whatever the nullness of the entries: loading never crashes, and the loaded list is a
permutation of the valid non-null entries, sorted newest first.  (A null entry used to crash the
sort or the first query: repaired in /repo, see known_findings.json.) -/
theorem load_with_nulls (raw : List (Option Entry)) :
    ∃ es : List Entry, loadEntries raw = .ok (es.map some) ∧ es.Perm (keptEntries raw) ∧
      es.Pairwise (fun a b => b.key ≤ a.key) := by
  refine ⟨_, rfl, List.mergeSort_perm _ _, ?_⟩
  have := List.pairwise_mergeSort geEntry_trans geEntry_total (keptEntries raw)
  exact this.imp (by intro a b h; simpa [geEntry] using h)

theorem kept_iff (raw : List (Option Entry)) (e : Entry) :
    e ∈ keptEntries raw ↔ some e ∈ raw ∧ e.valid = true := by
  unfold keptEntries
  simp only [List.mem_filterMap]
  constructor
  · rintro ⟨o, ho, h⟩
    cases o with
    | none => cases h
    | some x =>
      simp only at h
      split at h
      · cases h; exact ⟨ho, by assumption⟩
      · cases h
  · rintro ⟨h1, h2⟩
    exact ⟨some e, h1, by simp [h2]⟩

/-- When the file has no null entry: the loaded list is a permutation of the valid entries
(nothing lost, nothing invented) ... -/
theorem load_keeps_exactly_valid (raw : List Entry) :
    ∃ es : List Entry, loadEntries (raw.map some) = .ok (es.map some) ∧ es.Perm (raw.filter (·.valid)) := by
  obtain ⟨es, h, hp, _⟩ := load_with_nulls (raw.map some)
  exact ⟨es, h, keptEntries_map_some raw ▸ hp⟩

/-- ... and it is sorted newest first (unparsable versions last). -/
theorem load_sorted (raw : List Entry) :
    ∃ es : List Entry, loadEntries (raw.map some) = .ok (es.map some) ∧
      es.Pairwise (fun a b => b.key ≤ a.key) := by
  obtain ⟨es, h, _, hs⟩ := load_with_nulls (raw.map some)
  exact ⟨es, h, hs⟩

/-! ## 3. Queries -/

/-- In a list sorted newest first, the first match is the best match. -/
theorem first_match_is_best (p : Entry → Bool) (l : List Entry)
    (hs : l.Pairwise fun a b => b.key ≤ a.key) (e : Entry) (h : l.find? p = some e) :
    p e = true ∧ ∀ e' ∈ l, p e' = true → e'.key ≤ e.key :=
  ⟨List.find?_some h, first_match_is_max p l hs e h⟩

/-- `Get` with an empty version, or with a version/constraint that is no entry's exact version
string: the result is the highest version that parses and satisfies the constraint. -/
theorem get_returns_highest_satisfying (l : List Entry) (version : String) (e : Entry)
    (hs : l.Pairwise fun a b => b.key ≤ a.key)
    (hnoexact : version.isEmpty = true ∨ l.find? (fun x => x.version = version) = none)
    (h : Index.get (l.map some) version true = .ok e) :
    (e.ver.isSome ∧ e.sat = true) ∧
    ∀ e' ∈ l, e'.ver.isSome → e'.sat = true → e'.key ≤ e.key := by
  rw [get_map_some] at h
  obtain ⟨hp, hmax⟩ := first_match_is_best _ _ hs e (tagMatch_noexact l version e hnoexact h)
  exact ⟨by simpa using hp, fun e' he' h1 h2 => hmax e' he' (by simp [h1, h2])⟩

/-- An entry whose version string is identical to the request is returned first. -/
theorem get_exact_match_first (l : List Entry) (version : String) (e : Entry)
    (hv : version.isEmpty = false) (hl : l ≠ [])
    (hx : l.find? (fun x => x.version = version) = some e) :
    Index.get (l.map some) version true = .ok e := by
  simp [get_map_some, tagMatch, hv, hx]

/-- Nothing satisfies (and nothing matches exactly) → error. -/
theorem get_none_is_error (l : List Entry) (version : String)
    (hnoexact : l.find? (fun x => x.version = version) = none)
    (hnone : l.find? (fun e => e.ver.isSome && e.sat) = none) :
    Index.get (l.map some) version true = .err := by
  simp [get_map_some, tagMatch, hnoexact, hnone]

/-- An invalid constraint is an error, whatever the index holds. -/
theorem get_bad_constraint (vs : List (Option Entry)) (version : String) :
    Index.get vs version false = .err := by
  unfold Index.get; cases vs.isEmpty <;> simp

/-- Dependency resolution locks the highest indexed version that satisfies the range (and has a URL). -/
theorem resolve_locks_highest (l : List Entry) (e : Entry)
    (hs : l.Pairwise fun a b => b.key ≤ a.key) (h : resolvePick l = some e) :
    (e.ver.isSome ∧ e.hasURL = true ∧ e.sat = true) ∧
    ∀ e' ∈ l, e'.ver.isSome → e'.hasURL = true → e'.sat = true → e'.key ≤ e.key := by
  obtain ⟨hp, hmax⟩ := first_match_is_best _ _ hs e h
  simp only [Bool.and_eq_true] at hp
  exact ⟨⟨hp.1.1, hp.1.2, hp.2⟩, fun e' he' h1 h2 h3 => hmax e' he' (by simp [h1, h2, h3])⟩

/-- Tags (sorted newest first by the registry client): exact string first, else highest satisfying. -/
theorem tag_highest_satisfying (tags : List Entry) (version : String) (e : Entry)
    (hs : tags.Pairwise fun a b => b.key ≤ a.key)
    (hnoexact : version.isEmpty = true ∨ tags.find? (fun x => x.version = version) = none)
    (h : tagMatch tags version true = .ok e) :
    ∀ e' ∈ tags, e'.ver.isSome → e'.sat = true → e'.key ≤ e.key :=
  fun e' he' h1 h2 =>
    first_match_is_max _ _ hs e (tagMatch_noexact tags version e hnoexact h) e' he' (by simp [h1, h2])

end Helm.Props.C18
